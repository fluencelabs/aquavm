import Aqua.Gen.JsonCfg
import Aqua.Json.Parse
import Aqua.Json.Std
import AquaProps.Lemmas.JsonValue
import AquaProps.Lemmas.JsonStd
import AquaProps.Lemmas.JsonCanon
import AquaProps.Lemmas.JsonFuel
/-!
# C26 — the interpreter's JSON value type is faithful to JSON

Model: `Aqua/Json/Value.lean` (values, `serde_json` compact printing), `Aqua/Json/Parse.lean`
(`serde_json::from_str::<JValue>`: the deserializer of serde_json 1.0.108 driven by `JValue`'s visitor,
recursion limit 128), `Aqua/Json/Std.lean` (`serde_json::Value` mirror, `From<&Value>`, `to_value`, the
derived `==`, `partial_eq.rs`).

`f64` formatting and parsing are *not* modelled: floats are the texts `ryu` prints, and the number lexer
hands `(sign, u64 significand, decimal exponent)` — computed exactly as serde_json computes them — to an
oracle `fo` (`f64_from_parts` + printing).  Statements about floats are relative to that oracle: a value
is well formed (`WF fo v`) when its float texts are read back as themselves (`FloatRT`), its integers lie
in `[i64::MIN, u64::MAX]` and its object keys are strictly sorted.  Whether the *real* float conversion
has the read-back property is checked on the implementation by the harness (it has not: see the known
finding `float-text-roundtrip-not-identity`).
-/
namespace AquaProps.C26
open Aqua.Json AquaProps.JsonLemmas

/-- The configuration the model is written for (table regenerated from the repo on every run:
Cargo.lock, the crates' Cargo.toml, the serde_json source in the cargo registry): recursion limit 128,
objects are `BTreeMap`s (no `preserve_order` in serde_json or in `air-interpreter-value`), numbers are
`u64`/`i64`/`f64` (no `arbitrary_precision`), the default float parser (no `float_roundtrip`), the
recursion limit cannot be switched off (no `unbounded_depth`).  A change of any of these breaks this
theorem, i.e. the check, until the model is revisited. -/
theorem C26_config :
    Aqua.Gen.serdeJsonRecursionLimit = recursionLimit ∧ Aqua.Gen.serdeJsonArbitraryPrecision = false ∧
    Aqua.Gen.serdeJsonFloatRoundtrip = false ∧ Aqua.Gen.serdeJsonPreserveOrder = false ∧
    Aqua.Gen.serdeJsonUnboundedDepth = false ∧ Aqua.Gen.jvaluePreserveOrder = false ∧
    Aqua.Gen.serdeJsonVersion = "1.0.108" := by decide

/-- Print → parse, any recursion limit.  Parsing the compact text of a well-formed value returns
exactly that value, whenever the recursion limit exceeds the nesting depth. -/
theorem C26_print_parse_limit (fo : FloatOracle) (limit : Nat) (v : JVal) (hw : WF fo v) (hd : vdepth v < limit) :
    JVal.parseList fo limit v.render.toList = .ok v :=
  parseList_render fo limit v hw hd

/-- Print → parse for `serde_json::from_str::<JValue>(&v.to_string())` with serde_json's limit (128):
values nested less than 128 deep come back unchanged. -/
theorem C26_print_parse (fo : FloatOracle) (v : JVal) (hw : WF fo v) (hd : vdepth v < recursionLimit) :
    JVal.parse fo v.render = some v := by
  unfold JVal.parse JVal.parseWith
  rw [parseList_render fo recursionLimit v hw hd]

/-- Printing is canonical: well-formed values with the same text are the same value (so a content id
computed from the text is a function of the value and identifies it).  No depth bound. -/
theorem C26_render_injective (fo : FloatOracle) (v w : JVal) (hv : WF fo v) (hw : WF fo w)
    (h : v.render = w.render) : v = w := by
  have h1 := parseList_render fo (vdepth v + vdepth w + 1) v hv (by omega)
  have h2 := parseList_render fo (vdepth v + vdepth w + 1) w hw (by omega)
  rw [h, h2] at h1
  injection h1 with h1
  exact h1.symm

/-- Parse → print.  If the float oracle is canonical (every float text it produces is read back as
itself — idempotence of print∘parse on `f64`, a property of the float routines outside the model), then
whatever `from_str` accepts is a well-formed value below the recursion limit, and printing it and parsing
the text again returns the same value: parsing lands in the canonical forms, on which print/parse are
mutually inverse. -/
theorem C26_parse_print_canonical (fo : FloatOracle) (hfo : OracleCanonical fo) (t : String) (v : JVal)
    (h : JVal.parse fo t = some v) :
    WF fo v ∧ vdepth v < recursionLimit ∧ JVal.parse fo v.render = some v := by
  have hp : JVal.parseList fo recursionLimit t.toList = .ok v := by
    revert h
    fun_cases JVal.parse fo t <;> intro h <;> cases h
    exact ‹JVal.parseWith fo t = _›
  obtain ⟨hw, hd⟩ := parseList_wf fo hfo recursionLimit t.toList v hp
  have hd' : vdepth v < recursionLimit := by unfold recursionLimit at *; omega
  exact ⟨hw, hd', C26_print_parse fo v hw hd'⟩

/-- two texts that parse to the same printed form parse to the same value (and conversely, trivially) -/
theorem C26_parse_canonical_unique (fo : FloatOracle) (hfo : OracleCanonical fo) (t u : String) (v w : JVal)
    (hv : JVal.parse fo t = some v) (hw : JVal.parse fo u = some w) : v.render = w.render ↔ v = w := by
  constructor
  · intro h
    exact C26_render_injective fo v w (C26_parse_print_canonical fo hfo t v hv).1 (C26_parse_print_canonical fo hfo u w hw).1 h
  · intro h; rw [h]

/-- The model's parser is total for the right reason: the fuel that `parseWith` supplies is never
exhausted, so a rejection by the model is always one of serde_json's rejections (`syntax`,
`recursionLimit`, `numberOutOfRange`) and never the totalisation artefact. -/
theorem C26_model_never_out_of_fuel (fo : FloatOracle) (s : String) : JVal.parseWith fo s ≠ .error .fuel :=
  parseList_ne_fuel fo recursionLimit s.toList

/-- structural comparison is equality (`1` and `1.0` differ by constructor) -/
theorem C26_beq_iff_eq (v w : JVal) : JVal.beq v w = true ↔ v = w := beq_iff v w

/-- the implementation's `==` (derived `PartialEq`; `f64` `==` on floats) is equality up to the sign of
zero floats — and nothing else -/
theorem C26_eq_iff_eq_up_to_zero_sign (v w : JVal) : JVal.valEq v w = true ↔ v.normZero = w.normZero :=
  valEq_iff v w

/-- equal texts ⇒ `==`; `==` ⇒ equal texts once the sign of zeros is normalised -/
theorem C26_eq_vs_print (fo : FloatOracle) (v w : JVal) (hv : WF fo v) (hw : WF fo w) :
    (v.render = w.render → JVal.valEq v w = true) ∧
    (JVal.valEq v w = true → v.normZero.render = w.normZero.render) := by
  constructor
  · intro h
    rw [C26_render_injective fo v w hv hw h, valEq_iff]
  · intro h
    rw [(valEq_iff v w).mp h]

theorem eqI64_iff (v : JVal) (other : Int) : eqI64 v other = true ↔ v = .num other ∧ other ≤ i64Max := by
  cases v with
  | num i =>
    by_cases h : i ≤ i64Max
    · simp only [eqI64, JVal.asI64, if_pos h]; exact beq_iff_eq.trans ⟨fun e => ⟨congrArg _ e, e ▸ h⟩, fun e => JVal.num.inj e.1⟩
    · simp only [eqI64, JVal.asI64, if_neg h]; exact ⟨nofun, fun e => absurd (JVal.num.inj e.1 ▸ e.2) h⟩
  | _ => exact ⟨nofun, fun e => nomatch e.1⟩

theorem C26_peq_i64 (v : JVal) (other : Int) (hhi : other ≤ 9223372036854775807) :
    eqI64 v other = true ↔ v = .num other :=
  (eqI64_iff v other).trans (and_iff_left hhi)

theorem eqU64_iff (v : JVal) (other : Int) : eqU64 v other = true ↔ v = .num other ∧ 0 ≤ other := by
  cases v with
  | num i =>
    by_cases h : 0 ≤ i
    · simp only [eqU64, JVal.asU64, if_pos h]; exact beq_iff_eq.trans ⟨fun e => ⟨congrArg _ e, e ▸ h⟩, fun e => JVal.num.inj e.1⟩
    · simp only [eqU64, JVal.asU64, if_neg h]; exact ⟨nofun, fun e => absurd (JVal.num.inj e.1 ▸ e.2) h⟩
  | _ => exact ⟨nofun, fun e => nomatch e.1⟩

theorem C26_peq_u64 (v : JVal) (other : Int) (hlo : 0 ≤ other) :
    eqU64 v other = true ↔ v = .num other :=
  (eqU64_iff v other).trans (and_iff_left hlo)

theorem C26_peq_bool (v : JVal) (other : Bool) : eqBool v other = true ↔ v = .bool other := by
  unfold eqBool; cases v <;> simp [JVal.asBool]

theorem C26_peq_str (v : JVal) (other : String) : eqStr v other = true ↔ v = .str other := by
  unfold eqStr; cases v <;> simp [JVal.asStr?]

/-- `serde_json::to_value(&JValue::from(&s)) = s` -/
theorem C26_std_roundtrip_from_to (s : StdVal) (h : StdWF s) : toStd (fromStd s) = s := toStd_fromStd s h

/-- `JValue::from(serde_json::to_value(&v)) = v` -/
theorem C26_std_roundtrip_to_from (v : JVal) (h : Sorted v) : fromStd (toStd v) = v := fromStd_toStd v h

/-- converting does not change the printed text -/
theorem C26_std_print_commutes (s : StdVal) (h : StdWF s) : (fromStd s).render = s.render := render_fromStd s h

/-- converting does not change `==` -/
theorem C26_std_eq_commutes (s t : StdVal) (hs : StdWF s) (ht : StdWF t) :
    JVal.valEq (fromStd s) (fromStd t) = StdVal.valEq s t := valEq_fromStd s t hs ht


/-- `to_value` yields a proper `serde_json::Value` with the same text and the same `==` -/
theorem C26_std_to_value (v w : JVal) (hv : Sorted v) (hw : Sorted w) :
    StdWF (toStd v) ∧ (toStd v).render = v.render ∧ StdVal.valEq (toStd v) (toStd w) = JVal.valEq v w := by
  have sv := stdWF_toStd v hv
  have sw := stdWF_toStd w hw
  refine ⟨sv, ?_, ?_⟩
  · rw [← render_fromStd (toStd v) sv, fromStd_toStd v hv]
  · rw [← valEq_fromStd (toStd v) (toStd w) sv sw, fromStd_toStd v hv, fromStd_toStd w hw]

/-- well-formed values have sorted keys (the hypothesis of the conversion theorems) -/
theorem C26_wf_sorted (fo : FloatOracle) (v : JVal) (h : WF fo v) : Sorted v := sorted_of_WF fo v h

/-- a toy oracle knowing one float: `15 × 10⁻¹ ↦ "1.5"` -/
def fo0 : FloatOracle := fun p s e => if p = true ∧ s = 15 ∧ e = -1 then some "1.5" else none

theorem floatRT_fo0 : FloatRT fo0 "1.5" := by
  refine ⟨⟨'1', ['.', '5'], by decide, Or.inr (by decide)⟩, fun rest hr => ?_⟩
  rcases rest with _ | ⟨c, r⟩
  · rfl
  · simp only [restOk, Bool.or_eq_true, beq_iff_eq] at hr
    rcases hr with (rfl | rfl) | rfl <;> rfl

def v0 : JVal := .obj [("a", .arr [.num 1, .float "1.5", .str "x\n", .num (-9223372036854775808)]), ("b", .null), ("é", .obj [])]

theorem wf_v0 : WF fo0 v0 := by
  simp only [v0, WF, WFPairs, WFList, KeysSorted, and_true, true_and]
  refine ⟨⟨⟨⟨by omega, by omega⟩, floatRT_fo0, by omega, by omega⟩, by simp⟩, ?_⟩
  simp only [List.map, List.pairwise_cons, List.Pairwise.nil, and_true]
  decide
example : vdepth v0 < recursionLimit := by decide
example : JVal.parse fo0 v0.render = some v0 := C26_print_parse fo0 v0 wf_v0 (by decide)
example : v0.render = "{\"a\":[1,1.5,\"x\\n\",-9223372036854775808],\"b\":null,\"é\":{}}" := by decide +kernel

example : Sorted v0 := C26_wf_sorted fo0 v0 wf_v0
example : fromStd (toStd v0) = v0 := C26_std_roundtrip_to_from v0 (C26_wf_sorted fo0 v0 wf_v0)
example : StdWF (.object [("a", .number (.negInt (-1))), ("b", .array [.number (.posInt 18446744073709551615), .number (.float "-0.0")])]) := by
  simp only [StdWF, StdWFPairs, StdWFList, List.map, and_true]
  refine ⟨by omega, ?_⟩
  simp only [List.pairwise_cons, List.Pairwise.nil, and_true]; decide
example : JVal.valEq (.arr [.float "0.0"]) (.arr [.float "-0.0"]) = true := by decide
example : JVal.beq (.num 1) (.float "1.0") = false := by decide
example : eqI64 (.num 9223372036854775808) 9223372036854775807 = false := by decide
example : eqU64 (.num 9223372036854775808) 9223372036854775808 = true := by decide


theorem fo0_canonical : OracleCanonical fo0 := by
  intro p s e r
  fun_cases fo0 p s e <;> intro h <;> cases h
  exact floatRT_fo0

/-- a concrete text parses to a concrete value: the kernel runs the parser and compares with `JVal.beq` -/
theorem parse_eq_of_beq {fo : FloatOracle} {s : String} {v : JVal}
    (h : ((JVal.parse fo s).any fun w => JVal.beq w v) = true) : JVal.parse fo s = some v := by
  cases hp : JVal.parse fo s with
  | none => rw [hp] at h; cases h
  | some w => rw [hp] at h; exact congrArg some ((beq_iff w v).mp h)

/-- a text with whitespace, an array, a float, and a duplicate key (the later `"b"` wins, keys come out sorted) -/
theorem parse_example : JVal.parse fo0 "{\"b\":1, \"a\":[1.5],\"b\":null}" = some (.obj [("a", .arr [.float "1.5"]), ("b", .null)]) :=
  parse_eq_of_beq (by decide +kernel)
example : WF fo0 (.obj [("a", .arr [.float "1.5"]), ("b", .null)]) := (C26_parse_print_canonical fo0 fo0_canonical _ _ parse_example).1
example : JVal.parse fo0 " [1.5 ,[ 1,-2 ]]\n" = some (.arr [.float "1.5", .arr [.num 1, .num (-2)]]) :=
  parse_eq_of_beq (by decide +kernel)

end AquaProps.C26
