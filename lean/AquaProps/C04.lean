import AquaProps.Lemmas.MergeLattice
import AquaProps.Lemmas.CallRepush
/-!
# C04 — honest executions never hit data-consistency errors

Proved (all states): a per-state merge fails only on a genuine conflict — both sides hold *results*
(executed / failed / canonicalised) with different content — and never panics; results of one
deterministic execution (equal content for the same call) therefore always merge.
The history-level statement (`C04_full`: no run of an honest history returns a trace-merge,
CID-lookup, parameter-mismatch, generation or signature error) is explored by the oracle over random
and fault-free schedules; it is not proved (`_partial`), and one class of honest histories that does
violate it on the unchanged code is recorded as a known finding (see DESIGN.md §11).
-/
namespace AquaProps.C04
open Aqua Aqua.Data Aqua.Trace AquaProps.Merge

def C04_full (honestRunCodes : List Int) (consistencyCodes : List Int) : Prop :=
  ∀ c ∈ honestRunCodes, c ∉ consistencyCodes

theorem C04_call_merge_fails_only_on_conflict_partial (p c : CallResult) (e : MergeErr) (h : mergeCallResults p c = .error e) :
    isResult p ∧ isResult c ∧ contentOf p ≠ contentOf c := mergeCall_error_only_on_conflict p c e h

theorem C04_canon_merge_fails_only_on_conflict_partial (p c : CanonResult) (e : MergeErr) (h : mergeCanonResults p c = .error e) :
    ∃ a b, p = .executed a ∧ c = .executed b ∧ a ≠ b := mergeCanon_error_only_on_conflict p c e h

/-- states that agree on content (what one deterministic execution produces for one call) always merge -/
theorem C04_consistent_states_merge_partial (p c : CallResult) (h : isResult p → isResult c → contentOf p = contentOf c) :
    ∃ m s, mergeCallResults p c = .ok (m, s) :=
  mergeCall_ok_of_compatible p c (fun ⟨hp, hc, hne⟩ => hne (h hp hc))

theorem C04_call_merge_never_panics_partial (p c : CallResult) (site : String) : mergeCallResults p c ≠ .panic site :=
  mergeCall_no_panic p c site

/-! ## where the known finding lives

A consumed state that is not pushed again leaves the next instruction with a trace that is one state
short, which surfaces later as a `TraceError` (incompatible states).  For a call whose merged state is a
request of SOMEONE ELSE the following is the complete case list (for EVERY context): -/

open Aqua.Exec Aqua.Air AquaProps.C05 in
/-- A foreign request is dropped only on one path: for a call addressed elsewhere it is re-emitted; for
a call addressed to the current peer it is replaced by the peer's own request (arguments resolved) or
re-emitted (arguments still missing: joinable error) — and it vanishes, with the trace unchanged and a
*catchable* error that an enclosing `xor` may swallow, exactly when resolving the arguments fails with a
non-joinable error (e.g. a lens that does not apply).  That last path is the known finding. -/
theorem C04_foreign_request_dropped_only_on_arg_failure_partial (env : Env) (m : MetCallResult) (t : Tetraplet)
    (ah : Option String) (out : CallOutput) (args : List Value) (c : Ctx) (hres : ForeignRequest c.currentPeerId m.result) :
    let r := callTail env (.met m) t ah out args c
    (t.peerPk ≠ c.currentPeerId → r.1 = .ok () ∧ tr r.2 = tr c ++ [.call m.result]) ∧
    (t.peerPk = c.currentPeerId →
      (∀ c', issueRequest t args c = .ok c' → r.1 = .ok () ∧ ∃ id, tr r.2 = tr c ++ [.call (.requestSentBy (.peerIdWithCallId c.currentPeerId id))]) ∧
      (∀ e, issueRequest t args c = .error e → e.isJoinable = true → r.1 = .error e ∧ tr r.2 = tr c ++ [.call m.result]) ∧
      (∀ e, issueRequest t args c = .error e → e.isJoinable = false → r.1 = .error e ∧ tr r.2 = tr c)) :=
  callTail_foreign_request env m t ah out args c hres

end AquaProps.C04
