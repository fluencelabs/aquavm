import AquaProps.Lemmas.Grow
import Aqua.Exec.Run
/-!
# C05 — each service call runs exactly once and its result is never lost

Single-run statements about the `call` instruction of the executor model, for EVERY context
(scalars, stores, trace handler, call-result map, previous/current data — also adversarial ones):

* what decides whether a request is handed to the host is the *merged state* the trace handler
  returns for this call (`meet_call_start`): a request is issued only if there is no state yet or the
  state is a request sent by somebody else, and only for a call addressed to the current peer;
* an executed / failed call, and the peer's own pending request, are never requested again;
* a result delivered under the id of the pending request is consumed (removed from the result map)
  by exactly that call, and yields exactly one new state in the result trace.

The history-level statement needs one more premise (`C05_alignment_premise`, stated below and checked by the
history oracle and the lock-step correspondence); it is not proved (see the comment there).
-/
namespace AquaProps.C05
open Aqua Aqua.Exec Aqua.Air Aqua.Data Aqua.Trace AquaProps

/-- the part of `ResolvedCall::execute` that runs once the merged state `met` has been fetched from
the trace handler (`prepare_current_executed_state` and what follows) -/
def callTail (env : Env) (met : MergerCallResult) (t : Tetraplet) (ah : Option String) (out : CallOutput)
    (args : List Value) : M Unit :=
  prepareState env met t ah out >>= fun state => afterState t args state

theorem resolvedExecute_eq (env : Env) (i : Instr) (t : Tetraplet) (args : List Value) (out : CallOutput) :
    resolvedExecute env i t args out =
      (readER (fun c => checkArgs c args) >>= fun checked =>
       liftTH i (fun th => th.meetCallStart) >>= fun met =>
       callTail env met t (checked.map fun vs => env.hash (argsJson vs)) out args) := rfl

/-- nothing was handed to the host -/
structure NoNewRequest (c c' : Ctx) : Prop where
  reqs : c'.callRequests = c.callRequests
  lcid : c'.lastCallRequestId = c.lastCallRequestId

theorem NoNewRequest.of_obs {c c' : Ctx} (h : obs c' = obs c) : NoNewRequest c c' := by
  simp only [obs, Prod.mk.injEq] at h
  exact ⟨h.2.2.1, h.2.2.2.1⟩

theorem nnr_recordCallCid (c : Ctx) (p cid : String) : NoNewRequest c (c.recordCallCid p cid) :=
  .of_obs (by simp only [recordCallCid_eq, obs])

theorem nnr_withScalars {c c' : Ctx} {g : Scalars → ER Scalars} (h : withScalars c g = .ok c') : NoNewRequest c c' :=
  ⟨(sameData_withScalars h).reqs, (sameData_withScalars h).lcid⟩

/-- For a merged state that is a result, or this peer's own pending request (whether or not its result is at
hand), `handle_prev_state` does not ask for execution, and nothing it does itself touches the peer ids, the
requests, their counter or the next peers (`obs_prev`). -/
theorem callTail_obs (env : Env) (m : MetCallResult) (t : Tetraplet) (ah : Option String) (out : CallOutput)
    (args : List Value) (c : Ctx) (h : ∀ s, m.result = .requestSentBy s → ∃ id, s = .peerIdWithCallId c.currentPeerId id) :
    obs ((callTail env (.met m) t ah out args) c).2 = obs c := by
  have h1 := pp_handlePrevState (obs_prev env) m t ah out c
  show obs ((handlePrevState env m t ah out >>= fun state => afterState t args state) c).2 = obs c
  rw [bind_apply]
  cases hmc : handlePrevState env m t ah out c with
  | mk r c' =>
    rw [hmc] at h1
    cases r with
    | error e => exact h1
    | panic s => exact h1
    | ok s =>
      obtain ⟨b, prev⟩ := s
      have hb : b = false := by
        obtain ⟨hb, _⟩ | ⟨s, hs, _, hne⟩ := handlePrevState_desc (by rw [hmc])
        · exact hb
        · obtain ⟨id, rfl⟩ := h s hs
          cases b
          · rfl
          · exact absurd rfl (hne rfl id)
      subst hb
      -- without execution the step at most re-emits the merged state
      cases prev <;> exact h1

theorem callTail_nnr (env : Env) (m : MetCallResult) (t : Tetraplet) (ah : Option String) (out : CallOutput)
    (args : List Value) (c : Ctx) (h : ∀ s, m.result = .requestSentBy s → ∃ id, s = .peerIdWithCallId c.currentPeerId id) :
    NoNewRequest c ((callTail env (.met m) t ah out args) c).2 :=
  .of_obs (callTail_obs env m t ah out args c h)

/-- An executed or failed call is never requested again: if the merged state of this call is a
result (`Executed` or `Failed`), no request is handed to the host and the id counter is untouched,
whatever the context, the arguments, the stores and the call results are. -/
theorem C05_executed_not_reissued (env : Env) (m : MetCallResult) (t : Tetraplet) (ah : Option String)
    (out : CallOutput) (args : List Value) (c : Ctx)
    (h : (∃ v, m.result = .executed v) ∨ (∃ cid, m.result = .failed cid)) :
    NoNewRequest c ((callTail env (.met m) t ah out args) c).2 := by
  refine callTail_nnr env m t ah out args c fun s hs => ?_
  obtain ⟨v, hv⟩ | ⟨cid, hc⟩ := h
  · rw [hv] at hs; cases hs
  · rw [hc] at hs; cases hs

/-- The peer's own pending request is never issued twice: if the merged state says "request sent
by me under id `k`", then — whether or not a result for `k` is at hand — no new request is handed to
the host. -/
theorem C05_pending_not_reissued (env : Env) (m : MetCallResult) (t : Tetraplet) (ah : Option String)
    (out : CallOutput) (args : List Value) (c : Ctx) (id : Nat)
    (h : m.result = .requestSentBy (.peerIdWithCallId c.currentPeerId id)) :
    NoNewRequest c ((callTail env (.met m) t ah out args) c).2 :=
  callTail_nnr env m t ah out args c fun s hs => ⟨id, by rw [h] at hs; cases hs; rfl⟩

/-- A request is handed to the host only for a call that is neither executed nor already requested by
this peer: if running the call changes the request list or the id counter, then the merged state of
the call was absent, or a request sent by *someone else* (another peer, or a sender without a call
id). -/
theorem C05_request_only_if_unexecuted (env : Env) (met : MergerCallResult) (t : Tetraplet) (ah : Option String)
    (out : CallOutput) (args : List Value) (c : Ctx)
    (h : ¬ NoNewRequest c ((callTail env met t ah out args) c).2) :
    met = .notMet ∨ ∃ m s, met = .met m ∧ m.result = .requestSentBy s ∧ ∀ id, s ≠ .peerIdWithCallId c.currentPeerId id := by
  cases met with
  | notMet => exact Or.inl rfl
  | met m =>
    refine .inr (Classical.byContradiction fun hn => h (callTail_nnr env m t ah out args c fun s hs => ?_))
    exact Classical.byContradiction fun hid => hn ⟨m, s, rfl, hs, fun id e => hid ⟨id, e⟩⟩

/-- with the whole-run invariant `exec_grow` (C06/C19): the requests of a run are appended one by one by
such call steps, each addressed to the current peer, under fresh consecutive ids -/
theorem C05_run_requests_local_and_fresh (env : Env) (fuel : Nat) (script : Instr) (c : Ctx) :
    ∃ rs : List CallRequest,
      (exec env fuel script c).2.callRequests = c.callRequests ++ numbered (c.lastCallRequestId + 1) rs ∧
      ∀ r ∈ rs, r.forPeer = c.currentPeerId := by
  obtain ⟨rs, h1, _, h3⟩ := (exec_grow env fuel script c).reqs
  exact ⟨rs, h1, h3⟩

/-! ### non-vacuity: the hypotheses are met by concrete states, and the excluded case does issue a request -/

section Examples
def env0 : Env := { hash := fun s => "cid:" ++ s, parseJson := fun _ => some .null }
def ctx0 : Ctx := { initPeerId := "A", currentPeerId := "A", timestamp := 0, ttl := 0, lastCallRequestId := 4,
                    callResults := [], cid := {}, th := TraceHandler.fromTrace [] [] }
def tA : Tetraplet := { peerPk := "A", serviceId := "s", functionName := "f" }

-- no state yet: the call is issued under the fresh id 5
example : ((callTail env0 .notMet tA (some "h") .none [] ctx0).2.callRequests.map (·.1)) = [5] := by decide
-- the peer's own pending request 3: nothing is issued
example : (callTail env0 (.met ⟨.requestSentBy (.peerIdWithCallId "A" 3), 0, .previousData⟩) tA (some "h") .none [] ctx0).2.callRequests = [] := by decide
-- a request sent by another peer for a call addressed to us: we execute it
example : ((callTail env0 (.met ⟨.requestSentBy (.peerId "B"), 0, .previousData⟩) tA (some "h") .none [] ctx0).2.callRequests.map (·.1)) = [5] := by decide
end Examples

/-- The history-level reading of the property: along any honest history, a call instruction instance is
requested at most once and every returned result is recorded exactly once at that instance.  What the
theorems above leave open is that, in a later run, the merged state the trace handler hands to an
instance *is* the state recorded for that very instance earlier (alignment of the two trace sliders with
the script, the C09 premise); given that, `C05_executed_not_reissued` and `C05_pending_not_reissued` say
the instance is not requested again.  The alignment is checked on every step of the generated histories
by the lock-step correspondence (projection: code, requests, result trace) and by the invocation-log
oracle, not proved. -/
def C05_alignment_premise : Prop :=
  ∀ (env : Env) (m : MetCallResult) (t : Tetraplet) (ah : Option String) (out : CallOutput) (args : List Value) (c : Ctx),
    (((∃ v, m.result = .executed v) ∨ (∃ cid, m.result = .failed cid)) ∨
      (∃ id, m.result = .requestSentBy (.peerIdWithCallId c.currentPeerId id))) →
    NoNewRequest c ((callTail env (.met m) t ah out args) c).2

theorem C05_instance_not_rerequested_partial : C05_alignment_premise := by
  intro env m t ah out args c h
  rcases h with h | ⟨id, h⟩
  · exact C05_executed_not_reissued env m t ah out args c h
  · exact C05_pending_not_reissued env m t ah out args c id h

end AquaProps.C05
