import AquaProps.Lemmas.EnvInvCall
import Aqua.Exec.Run
/-!
# C17 — security tetraplets describe where each argument came from

*Specification* (`Aqua/Exec/Prov.lean`, written from the property text): a provenance environment
`ProvEnv` attributes every name to a producer triplet plus the lens applied so far;
`expectedTetraplets arg env` is what the property promises for one call argument; `prov c` reads the
environment off an execution context.

The theorems are about the executor model `Aqua.Exec.*`, for EVERY context / script / fuel / data.
-/
namespace AquaProps.C17
open Aqua Aqua.Exec Aqua.Air Aqua.Trace Aqua.Json Aqua.Data AquaProps

/-- Resolver = specification for every argument kind the property covers unambiguously and the
model executes (literals, built-ins, scalars, iterators, scalar lenses, bare `:error:` / `%last_error%`).
Partial: see `C17_full` below. -/
theorem C17_resolve_spec_partial (c : Ctx) (arg : Value) (v : JVal) (ts : List Tetraplet) (p : Provenance)
    (hcov : Covered arg = true) (h : resolveValue c arg = .ok (v, ts, p)) :
    expectedTetraplets arg (prov c) = some ts :=
  resolve_spec c arg v ts p hcov h

/-- The full-strength statement: for EVERY argument the property speaks about (everything but the
`.length` functor) — including lenses on `:error:` / `%last_error%` and canon streams / maps.
Missing from `C17_resolve_spec_partial`:
* lenses on `:error:` / `%last_error%`: the code does NOT record the lens — `C17_full` is refuted
  (`C17_full_refuted_by_error_lens`), a finding replayed on the real interpreter by the harness;
* lenses into canon streams and canon maps (`#c.$.[0].field`, `#%m.$.key`): executed by the model
  (`canonStreamApplyLambda`, `canonMapApplyLambda`, compared with the implementation by the correspondence runs) but the
  code deviates from the wording: `#c.$.[i].field` hands out the element's tetraplet WITHOUT `.field` (second finding:
  lens dropped), `#%m.$.key` REPLACES the lens field (`C17_canon_map_lens_key_tetraplet`), `#%m.$.key.[i]` is the
  tetraplet of the `i`-th value under the key (`C17_canon_map_lens_key_index_tetraplet`).  Whole canon streams (`#c`)
  and whole canon maps (`#%m`) ARE covered by `C17_resolve_spec_partial`. -/
def C17_full : Prop :=
  ∀ (c : Ctx) (arg : Value) (v : JVal) (ts : List Tetraplet) (p : Provenance),
    SpecDefined arg = true → resolveValue c arg = .ok (v, ts, p) → expectedTetraplets arg (prov c) = some ts

/-- what the code does for a lens on an error value: the tetraplet is the one of the bare error value;
the lens text is not appended (deviation from "the exact lens applied") -/
theorem C17_error_lens_not_recorded (c : Ctx) (l : Lambda) (v : JVal) (ts : List Tetraplet) (p : Provenance) :
    (resolveValue c (.error (some l)) = .ok (v, ts, p) → expectedTetraplets (.error none) (prov c) = some ts) ∧
    (resolveValue c (.lastError (some l)) = .ok (v, ts, p) → expectedTetraplets (.lastError none) (prov c) = some ts) := by
  constructor
  · intro h
    simp only [resolveValue] at h
    obtain ⟨rfl, _⟩ := resolveErrors_tetraplets h
    rfl
  · intro h
    simp only [resolveValue] at h
    obtain ⟨rfl, _⟩ := resolveErrors_tetraplets h
    rfl

/-- what the code does where the property is silent: `x.length` carries the erased tetraplet
`("", "", "", ".length")` — no trace of the producer of `x` -/
theorem C17_functor_tetraplet (c : Ctx) (n : String) (v : JVal) (ts : List Tetraplet) (p : Provenance)
    (h : resolveValue c (.scalarWL n .functorLength) = .ok (v, ts, p)) : ts = [functorTetraplet] := by
  obtain ⟨r, _, h⟩ := Res.bind_eq_ok.mp h
  obtain ⟨⟨v', t', p'⟩, _, h⟩ := Res.bind_eq_ok.mp h
  obtain ⟨sel, _, h⟩ := Res.bind_eq_ok.mp h
  cases h
  rfl

/-- `collect_args`: one value and one tetraplet list per argument, in order, each list as specified -/
theorem C17_collect_args_spec (c : Ctx) (args : List Value) (vs : List JVal) (tss : List (List Tetraplet))
    (h : collectArgs c args = .ok (vs, tss)) :
    vs.length = args.length ∧ tss.length = args.length ∧
    ∀ (i : Nat) (a : Value) (ts : List Tetraplet), args[i]? = some a → tss[i]? = some ts → Covered a = true →
      expectedTetraplets a (prov c) = some ts := by
  obtain ⟨hl, hl', hs⟩ := collectArgs_get c args vs tss h
  exact ⟨hl, hl', fun i a ts ha hts hcov =>
    let ⟨v, p, hr⟩ := hs i a ts ha hts
    resolve_spec c a v ts p hcov hr⟩

/-- Every request carries, per argument, exactly the specified tetraplets.  `issueRequest` is the only
place where the model creates a call request. -/
theorem C17_request_tetraplets (t : Tetraplet) (args : List Value) (c c' : Ctx) (h : issueRequest t args c = .ok c') :
    ∃ r : CallRequest, c'.callRequests = c.callRequests ++ [(c.lastCallRequestId + 1, r)] ∧
      r.serviceId = t.serviceId ∧ r.functionName = t.functionName ∧
      r.arguments.length = args.length ∧ r.tetraplets.length = args.length ∧
      ∀ (i : Nat) (a : Value) (ts : List Tetraplet), args[i]? = some a → r.tetraplets[i]? = some ts → Covered a = true →
        expectedTetraplets a (prov c) = some ts := by
  obtain ⟨vs, tss, hca, rfl⟩ := issueRequest_eq_ok h
  obtain ⟨h1, h2, h3⟩ := C17_collect_args_spec c args vs tss hca
  exact ⟨⟨t.serviceId, t.functionName, vs, tss, t.peerPk⟩, rfl, rfl, rfl, h1, h2, h3⟩

theorem setScalarValue_top {s s' : Scalars} {name : String} {va : ValueAggregate} (h : s.setScalarValue name va = .ok s') :
    ∃ stack cell, s'.nonIterable.getCells name = some stack ∧ stack.getLast? = some cell ∧ cell.value = some va := by
  obtain ⟨⟨b, m⟩, hm, h⟩ := Res.bind_eq_ok.mp h
  cases h
  obtain ⟨st, d, rfl, _⟩ := setValue_eq hm
  exact ⟨_, ⟨d, some va⟩, lookup_upsert_self _ _ _, by simp, rfl⟩

/-- A value produced on this peer is bound with the tetraplet of the call that produced it — the
resolved (peer, service, function), no lens — and is recorded under its CID in the CID stores. -/
theorem C17_call_result_tetraplet (env : Env) (c c' : Ctx) (result : JVal) (t : Tetraplet) (ah : String) (pos : Nat) (name : String)
    (cr : CallResult) (h : populateFromPeerServiceResult env c result t ah pos (.scalar name) = .ok (cr, c')) :
    ∃ stack cell, c'.scalars.nonIterable.getCells name = some stack ∧ stack.getLast? = some cell ∧
      cell.value = some ⟨result, t, pos, .serviceResult (trackServiceResult env c.cid result t ah).1⟩ ∧
      cr = .executed (.scalar (trackServiceResult env c.cid result t ah).1) ∧
      lookup c'.cid.serviceResults (trackServiceResult env c.cid result t ah).1 =
        some ⟨env.hash result.render, ah, env.hash t.json⟩ ∧
      lookup c'.cid.tetraplets (env.hash t.json) = some t := by
  simp only [populateFromPeerServiceResult] at h
  obtain ⟨sc, hs, h⟩ := Res.bind_eq_ok.mp h
  cases h
  obtain ⟨stack, cell, g1, g2, g3⟩ := setScalarValue_top hs
  refine ⟨stack, cell, by rw [recordCallCid_eq]; exact g1, g2, g3, rfl, ?_, ?_⟩
  · simp only [recordCallCid_eq, trackServiceResult, trackValue, trackTetraplet]
    exact lookup_upsert_self _ _ _
  · simp only [recordCallCid_eq, trackServiceResult, trackValue, trackTetraplet]
    exact lookup_upsert_self _ _ _

/-- A value arriving via merged data (a previous / current trace state `executed(scalar cid)`) is bound
with the tetraplet `t` of the call instruction that consumes it, and this is only possible when the
tetraplet recorded for `cid` in the CID stores is that same `t` (and the argument hash matches):
`verify_call`. -/
theorem C17_merged_value_tetraplet (env : Env) (c c' : Ctx) (cid : Cid) (ah : String) (t : Tetraplet) (pos : Nat) (name : String)
    (src : ValueSource) (h : populateFromData env c (.scalar cid) ah t pos (.scalar name) src = .ok c') :
    ∃ v agg, lookup c.cid.serviceResults cid = some agg ∧ lookup c.cid.tetraplets agg.tetrapletCid = some t ∧
      agg.argumentHash = ah ∧
      ∃ stack cell, c'.scalars.nonIterable.getCells name = some stack ∧ stack.getLast? = some cell ∧
        cell.value = some ⟨v, t, pos, .serviceResult cid⟩ := by
  obtain ⟨⟨v, curT, agg⟩, hr, h⟩ := Res.bind_eq_ok.mp h
  obtain ⟨_, hv, h⟩ := Res.bind_eq_ok.mp h
  obtain ⟨sc, hs, h⟩ := Res.bind_eq_ok.mp h
  cases h
  obtain ⟨hsr, htet, _⟩ := resolveServiceInfo_ok hr
  obtain ⟨hah, rfl⟩ := UseSite.verifyCall_ok hv
  exact ⟨v, agg, hsr, htet, hah.symm, setScalarValue_top hs⟩

/-- `ap`: the aggregate bound by `(ap arg name)` carries the tetraplet the specification gives for
`arg` (for values with a service-result provenance: exactly; the literal variant of `ValueAggregate`
keeps the peer only). -/
theorem C17_ap_binding (c : Ctx) (arg : Value) (va : ValueAggregate) (t : Tetraplet)
    (hcov : Covered arg = true) (h : applyToArg c arg = .ok va) (hs : expectedTetraplets arg (prov c) = some [t]) :
    (∀ k, va.provenance = .serviceResult k → va.tetraplet = t) ∧
    (va.provenance = .literal → va.tetraplet = t ∨ va.tetraplet = Tetraplet.literal t.peerPk) := by
  rcases applyToArg_resolve h with ⟨cid, hc⟩ | ⟨v, t', rest, p, hr, hp, hcar⟩
  · -- `(ap #c x)` / `(ap #%m x)`: the aggregate has a canon provenance (neither a service result nor a literal)
    rw [hc]
    exact ⟨nofun, nofun⟩
  · cases Option.some.inj ((resolve_spec c arg _ _ _ hcov hr).symm.trans hs)
    exact hcar

/-- Fold iterators: the `k`-th element of an iterated array carries the tetraplet the specification
gives for the iterable, extended by the element index the way the interpreter writes it
(`iterElem`: `<lens>.$.[k]`, appended even after a lens: `.$.args.$.[9]`, cf. the repository test
`fold_lens`).  (For service-result provenance; an element of a literal-provenance iterator that is
itself iterated is first normalised by `ValueAggregate::new` and keeps the peer only.) -/
theorem C17_fold_element_tetraplet (c : Ctx) (iterable : Value) (itv : IterableValue) (t0 : Tetraplet)
    (hnc : ∀ n, iterable ≠ .canon n) (hncm : ∀ n, iterable ≠ .canonMap n)
    (h : createScalarIterable c iterable = .ok (some itv)) (hs : expectedTetraplets iterable (prov c) = some [t0])
    (k : Nat) (x : JVal) (t : Tetraplet) (pos : Nat) (p : Provenance) (cid : Cid) (hp : p = .serviceResult cid)
    (hk : (itv.setCursor k).peek = .ok (some (x, t, pos, p))) : t = iterElem t0 k := by
  -- the iterable is built from what the resolver returns for it, and the resolver meets the specification
  have hspec : ∀ {v : JVal} {t1 : Tetraplet} {p1 : Provenance}, Covered iterable = true →
      resolveValue c iterable = .ok (v, [t1], p1) → t1 = t0 :=
    fun hcov hr => (List.cons.inj (Option.some.inj ((resolve_spec c iterable _ _ _ hcov hr).symm.trans hs))).1
  cases iterable with
  | scalar n =>
    obtain ⟨v, t1, p1, va, l, hr, rfl, _, hcar⟩ := createScalarIterable_scalar h
    cases hspec rfl hr
    obtain ⟨rfl, rfl⟩ := peek_eq hk
    rw [hcar.1 cid hp]
    rfl
  | scalarWL n l =>
    cases l with
    | functorLength => cases hs
    | path as =>
      obtain ⟨v, t1, p1, a, hr, rfl⟩ := createScalarIterable_scalarWL h
      cases hspec rfl hr
      obtain ⟨rfl, _⟩ := peek_eq hk
      rfl
  -- canon streams and canon maps are iterated element by element, each with its own tetraplet (below)
  | canon n => exact absurd rfl (hnc n)
  | canonMap n => exact absurd rfl (hncm n)
  | canonMapWL n l => cases hs
  | _ => cases h

/-- Folds over canon streams: the iterator denotes the elements of the canon stream with the tetraplets
they were canonicalised with (no element index is appended) — element `k` carries the `k`-th tetraplet the
specification lists for `#c`. -/
theorem C17_canon_fold_element_tetraplet (c : Ctx) (n : String) (itv : IterableValue) (ts : List Tetraplet)
    (h : createScalarIterable c (.canon n) = .ok (some itv)) (hs : expectedTetraplets (.canon n) (prov c) = some ts)
    (k : Nat) (x : JVal) (t : Tetraplet) (pos : Nat) (p : Provenance)
    (hk : (itv.setCursor k).peek = .ok (some (x, t, pos, p))) : ts[k]? = some t := by
  obtain ⟨cs, hg, h⟩ := Res.bind_eq_ok.mp h
  obtain rfl : cs.canonStream.values.map (·.tetraplet) = ts := by
    simpa [expectedTetraplets, prov, canonTetraplets, hg] using hs
  split at h <;> cases h
  obtain ⟨y, hy, rfl, _⟩ := peek_eq hk
  simp [hy]

/-- Every instruction preserves the invariant `EnvInv`: "the tetraplet store is keyed by content, and
every aggregate in the scalar cells, the fold iterables, the stream store, the canon streams and both error
descriptors that has a service-result provenance carries the erased functor tetraplet or a lens-extension of a
tetraplet whose content id is a key of the tetraplet store" — for every fuel, script (incl. streams, `canon`,
stream folds, `new`) and context, whether the execution succeeds, fails or panics. -/
theorem C17_env_inv_preserved (env : Env) (fuel : Nat) (i : Instr) (c : Ctx) (h : EnvInv env c) :
    EnvInv env (exec env fuel i c).2 :=
  (exec_step env fuel i c h).inv

/-- Every request issued anywhere during an execution was built in a context `c0` satisfying the
invariant, and carries one tetraplet list per argument, each as specified by `expectedTetraplets` in
that context. -/
theorem C17_requests_along_exec (env : Env) (fuel : Nat) (i : Instr) (c : Ctx) (h : EnvInv env c) :
    ∃ rs, (exec env fuel i c).2.callRequests = c.callRequests ++ rs ∧
      ∀ r ∈ rs, ∃ (c0 : Ctx) (args : List Value), EnvInv env c0 ∧
        r.2.arguments.length = args.length ∧ r.2.tetraplets.length = args.length ∧
        ∀ (j : Nat) (a : Value) (ts : List Tetraplet), args[j]? = some a → r.2.tetraplets[j]? = some ts → Covered a = true →
          expectedTetraplets a (prov c0) = some ts :=
  (exec_step env fuel i c h).reqs

/-- the content-keyed property of a tetraplet store, on lists -/
def KeyedList (env : Env) (l : List (Cid × Tetraplet)) : Prop := ∀ e ∈ l, e.1 = env.hash e.2.json

/-- the initial context of a run satisfies the invariant as soon as the incoming tetraplet stores are
keyed by content (which the preparation stage checks: `CidStore::verify`) -/
theorem envInv_initCtx (env : Env) (prev cur : DataIn) (p : RunParams) (results : List (String × CallServiceResult))
    (hp : KeyedList env prev.cid.tetraplets) (hc : KeyedList env cur.cid.tetraplets) : EnvInv env (initCtx prev cur p results) := by
  -- all stores are empty and both error descriptors hold the literal "no error"
  have he : ErrOK (PairOK env (initCtx prev cur p results).cid) noError := errOK_literal (pairOK_closed _ _) _ _ _
  have hn : ∀ {α : Type} {q : α → Prop}, ∀ a ∈ ([] : List α), q a := fun _ h => absurd h List.not_mem_nil
  exact ⟨forall_mem_mergeStores hp hc, ⟨hn, hn, hn, hn⟩, hn, he, he⟩

/-- Whole runs: every call request a run hands to the host was built in a context satisfying the
invariant and carries exactly the specified tetraplets, one list per argument. -/
theorem C17_run_requests (env : Env) (fuel : Nat) (script : Instr) (prev cur : DataIn) (p : RunParams)
    (results : List (String × CallServiceResult))
    (hp : KeyedList env prev.cid.tetraplets) (hc : KeyedList env cur.cid.tetraplets) :
    ∀ r ∈ (runExec env fuel script prev cur p results).2.callRequests, ∃ (c0 : Ctx) (args : List Value), EnvInv env c0 ∧
      r.2.arguments.length = args.length ∧ r.2.tetraplets.length = args.length ∧
      ∀ (j : Nat) (a : Value) (ts : List Tetraplet), args[j]? = some a → r.2.tetraplets[j]? = some ts → Covered a = true →
        expectedTetraplets a (prov c0) = some ts := by
  obtain ⟨rs, hr, hok⟩ := C17_requests_along_exec env fuel script _ (envInv_initCtx env prev cur p results hp hc)
  intro r hr'
  have h0 : (initCtx prev cur p results).callRequests = [] := rfl
  unfold runExec at hr'
  rw [hr, h0, List.nil_append] at hr'
  exact hok r hr'

/-- what the invariant says about an argument that names a scalar holding a service result: its
tetraplet is the erased functor tetraplet, or it extends (by a lens) a tetraplet whose content id is a key
of the particle's tetraplet store -/
theorem C17_scalar_arg_producer_recorded (env : Env) (c : Ctx) (hi : EnvInv env c) (n : String) (v : JVal) (ts : List Tetraplet) (k : Cid)
    (h : resolveValue c (.scalar n) = .ok (v, ts, .serviceResult k)) :
    ∃ t, ts = [t] ∧ (IsErased t ∨ ∃ (t0 : Tetraplet) (l : String), env.hash t0.json ∈ keys c.cid.tetraplets ∧ t = t0.addLens l) :=
  (resolve_ok hi h).resolve_left fun hn => hn k rfl

def exParams : RunParams := { initPeerId := "init", currentPeerId := "me", timestamp := 1, ttl := 2 }
def exProducer : Tetraplet := { peerPk := "A", serviceId := "svc", functionName := "f", lens := "" }
def exValue : JVal := .obj [("a", .arr [.num 1, .num 2])]
def exAgg : ValueAggregate := ⟨exValue, exProducer, 0, .serviceResult "cid0"⟩
/-- a context in which `x` holds a result of `(call "A" ("svc" "f") [] x)` and `:error:` holds an error
of a call to `("B" "s" "g")` -/
def exCtx : Ctx :=
  { initCtx {} {} exParams [] with
    scalars := { nonIterable := { cells := [("x", [⟨0, some exAgg⟩])] } }
    error := { error := ⟨.obj [("error_code", .num 10000), ("message", .str "m")], some ⟨"B", "s", "g", ""⟩, .literal, none⟩, canBeSet := false } }

def exLens : Lambda := .path [.fieldByName "a", .arrayAccess 1]

example : resolveValue exCtx (.scalarWL "x" exLens) = .ok (.num 2, [⟨"A", "svc", "f", ".$.a.[1]"⟩], .serviceResult "cid0") := by rfl
example : expectedTetraplets (.scalarWL "x" exLens) (prov exCtx) = some [⟨"A", "svc", "f", ".$.a.[1]"⟩] :=
  C17_resolve_spec_partial exCtx _ (.num 2) _ (.serviceResult "cid0") rfl (by rfl)
example : resolveValue exCtx (.literal "s") = .ok (.str "s", [⟨"init", "", "", ""⟩], .literal) := by rfl
example : collectArgs exCtx [.scalar "x", .number 5, .scalar "x"] =
    .ok ([exValue, .num 5, exValue], [[exProducer], [⟨"init", "", "", ""⟩], [exProducer]]) := by rfl
example : (createScalarIterable exCtx (.scalarWL "x" (.path [.fieldByName "a"]))).isOk = true := by rfl
example : applyToArg exCtx (.scalarWL "x" exLens) = .ok ⟨.num 2, ⟨"A", "svc", "f", ".$.a.[1]"⟩, 0, .serviceResult "cid0"⟩ := by rfl

/-- a lens on `:error:` resolves, but the tetraplet does not mention the lens -/
theorem exError_resolves : resolveValue exCtx (.error (some (.path [.fieldByName "message"]))) =
    .ok (.str "m", [⟨"B", "s", "g", ""⟩], .literal) := by rfl

/-- Finding (model level): the full statement fails — for `:error:.$.message` the specification
(producer of the error value + the exact lens `.$.message`) and the resolver (`lens = ""`) differ. -/
theorem C17_full_refuted_by_error_lens : ¬ C17_full := by
  intro h
  have := h exCtx _ _ _ _ rfl exError_resolves
  simp [expectedTetraplets, prov, exCtx, isFunctor, withLens, Lambda.render, Accessor.render] at this

/-- an environment with a content-keyed (here: empty) store -/
def exEnv : Env := { hash := fun s => "cid:" ++ s, parseJson := fun _ => none }

example : EnvInv exEnv (initCtx {} {} exParams []) :=
  envInv_initCtx exEnv {} {} exParams [] (by intro e he; simp at he) (by intro e he; simp at he)


/-- hypotheses of `C17_call_result_tetraplet` are satisfiable: a local result bound to `y` -/
example : (populateFromPeerServiceResult exEnv exCtx (.str "r") ⟨"me", "s", "f", ""⟩ "ah" 3 (.scalar "y")).isOk = true := by rfl

/-- a context whose CID stores record a value produced by `("A", "svc", "f")` under the CID `c1` -/
def exDataCtx : Ctx :=
  { exCtx with cid := { values := [("vc", "\"r\"")], tetraplets := [("tc", exProducer)], serviceResults := [("c1", ⟨"vc", "ah", "tc"⟩)] } }
def exEnv' : Env := { hash := fun s => "cid:" ++ s, parseJson := fun _ => some (.str "r") }

/-- hypotheses of `C17_merged_value_tetraplet` are satisfiable (the consuming call names the recorded producer) … -/
example : (populateFromData exEnv' exDataCtx (.scalar "c1") "ah" exProducer 5 (.scalar "y") .currentData).isOk = true := by rfl
/-- … and a consuming call that names another function is refused -/
example : (populateFromData exEnv' exDataCtx (.scalar "c1") "ah" { exProducer with functionName := "g" } 5 (.scalar "y") .currentData).isOk = false := by rfl

/-- hypotheses of `C17_fold_element_tetraplet` are satisfiable: the element `1` of `x.$.a` -/
example : (match createScalarIterable exCtx (.scalarWL "x" (.path [.fieldByName "a"])) with
    | .ok (some itv) => (match (itv.setCursor 1).peek with | .ok (some (_, t, _, _)) => some t | _ => none)
    | _ => none) = some ⟨"A", "svc", "f", ".$.a.$.[1]"⟩ := by rfl


/-- a context with a canon stream `#cs` holding two values of different producers -/
def exCanonCtx : Ctx :=
  { exCtx with scalars := { exCtx.scalars with
      canonStreams := { cells := [("#cs", [⟨0, some ⟨⟨[exAgg, ⟨.num 1, ⟨"B", "s2", "g", ".$.n"⟩, 0, .serviceResult "cid1"⟩], { peerPk := "C" }⟩, "ccid"⟩⟩])] } } }

/-- a whole canon stream: one tetraplet per element, each element's own -/
example : resolveValue exCanonCtx (.canon "#cs") =
    .ok (.arr [exValue, .num 1], [exProducer, ⟨"B", "s2", "g", ".$.n"⟩], .canon "ccid") := by rfl
example : expectedTetraplets (.canon "#cs") (prov exCanonCtx) = some [exProducer, ⟨"B", "s2", "g", ".$.n"⟩] :=
  C17_resolve_spec_partial exCanonCtx _ (.arr [exValue, .num 1]) _ (.canon "ccid") rfl (by rfl)
/-- hypotheses of `C17_canon_fold_element_tetraplet` are satisfiable -/
example : (match createScalarIterable exCanonCtx (.canon "#cs") with
    | .ok (some itv) => (match (itv.setCursor 1).peek with | .ok (some (_, t, _, _)) => some t | _ => none)
    | _ => none) = some ⟨"B", "s2", "g", ".$.n"⟩ := by rfl

/-- a request with a lens argument, a literal and the same variable twice -/
example : (match issueRequest ⟨"me", "s", "f", ""⟩ [.scalarWL "x" exLens, .literal "lit", .scalar "x", .scalar "x"] exCtx with
    | .ok c' => c'.callRequests.map (fun r => r.2.tetraplets)
    | _ => []) = [[[⟨"A", "svc", "f", ".$.a.[1]"⟩], [⟨"init", "", "", ""⟩], [exProducer], [exProducer]]] := by rfl

/-- Folds over canon maps: the iterator denotes key-value pairs of the canon map (the last pair of every key),
each with the tetraplet it was canonicalised with (no element index is appended): the tetraplet of every iterated
pair is one of those the specification lists for `#%m`. -/
theorem C17_canon_map_fold_element_tetraplet (c : Ctx) (n : String) (itv : IterableValue) (ts : List Tetraplet)
    (h : createScalarIterable c (.canonMap n) = .ok (some itv)) (hs : expectedTetraplets (.canonMap n) (prov c) = some ts)
    (k : Nat) (x : JVal) (t : Tetraplet) (pos : Nat) (p : Provenance)
    (hk : (itv.setCursor k).peek = .ok (some (x, t, pos, p))) : t ∈ ts := by
  obtain ⟨cm, hg, h⟩ := Res.bind_eq_ok.mp h
  obtain rfl : cm.canonStreamMap.values.map (·.tetraplet) = ts := by
    simpa [expectedTetraplets, prov, canonMapTetraplets, hg] using hs
  split at h <;> cases h
  obtain ⟨y, hy, rfl, _⟩ := peek_eq hk
  exact List.mem_map.mpr ⟨y, mem_lastPairPerKey (List.mem_of_getElem? hy), rfl⟩

/-- `#%m.$.key` (one accessor): the result is the array of the values under the key and its tetraplet is the canon's
own (the canonicalising peer, empty service and function) with the lens text as written — what the code does
(`update_tetraplet_with_path(.., prefix_with_path = false)`). -/
theorem C17_canon_map_lens_key_tetraplet (c : Ctx) (m : CanonStreamMapAgg) (a : Accessor) (t : Tetraplet)
    (h : canonMapLensTetraplet c m (.path [a]) = .ok t) :
    t = { m.tetraplet with lens := (Lambda.path [a]).render } := by
  unfold canonMapLensTetraplet at h
  simp only at h
  split at h
  · injection h with h; exact h.symm
  · cases h
  · cases h

/-- `#%m.$.key.[i]`: the tetraplet of the `i`-th value inserted under the key, unchanged (the rest of the lens, if
any, is appended to ITS lens field) -/
theorem C17_canon_map_lens_key_index_tetraplet (c : Ctx) (m : CanonStreamMapAgg) (key : String) (i : Nat) (t : Tetraplet)
    (h : canonMapLensTetraplet c m (.path [.fieldByName key, .arrayAccess i]) = .ok t) :
    ∃ cs va, m.index (.str key) = some cs ∧ cs.values[i]? = some va ∧ t = va.tetraplet := by
  unfold canonMapLensTetraplet at h
  simp only [Lens.ValueAccessor.ofAccessor, Lens.canonMapKeyOfPrefix] at h
  cases hidx : m.index (.str key) with
  | some cs =>
    simp only [hidx, canonMapStreamTetraplet, Lens.splitToIdx] at h
    cases hv : cs.values[i]? with
    | some va =>
      simp only [hv, List.isEmpty_nil, if_true] at h
      injection h with h
      exact ⟨cs, va, rfl, hv, h.symm⟩
    | none => simp [hv, lambdaErr, catchable] at h
  | none =>
    simp only [hidx, canonMapStreamTetraplet, Lens.splitToIdx] at h
    simp [lambdaErr, catchable] at h

end AquaProps.C17
