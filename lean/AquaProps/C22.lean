import Aqua.Run.Runner
/-!
# C22 — size limits are enforced exactly as configured

Statements are about `Aqua.Run.executeAir` for every instantiation of the stages
(`Stages B D S A C K X`), every input and every limit configuration `l : Limits`
(the four limit fields of `RunParameters`; the remaining fields are `inp.params`).
-/
namespace AquaProps.C22
open Aqua Aqua.Run

variable {B D S A C K X : Type}

/-- the call-result stage is reached: everything before `make_exec_ctx`'s size check succeeded;
returns the deserialised call results -/
def reachedCallResults (St : Stages B D S A C K X) (inp : RunInput B) : Option C :=
  match St.parseData inp.prev inp.cur with
  | .error _ => none
  | .ok (p, c) =>
    match St.verify p c inp.params.particleId with
    | .error _ => none
    | .ok _ =>
      match St.parseAir inp.air with
      | .error _ => none
      | .ok _ =>
        match St.deCallResults inp.callResults with
        | .error _ => none
        | .ok crs => some crs

/-- specification of the three soft-limit flags, written from the property text -/
def expectedFlags (St : Stages B D S A C K X) (l : Limits) (inp : RunInput B) : Flags :=
  { air := decide (l.airSizeLimit < inp.air.utf8ByteSize)
    particle := decide (l.particleSizeLimit < St.blob.len inp.cur)
    callResult := match reachedCallResults St inp with
      | none => false
      | some crs => anyExceeds l.callResultSizeLimit (St.resultLens crs) }

/-- Hard mode, script larger than its limit: rejected with the AIR size error, previous data returned,
nothing forwarded, no requests. -/
theorem C22_hard_air (St : Stages B D S A C K X) (l : Limits) (inp : RunInput B)
    (hh : l.hardLimitEnabled = true)
    (ha : l.airSizeLimit < inp.air.utf8ByteSize) :
    let o := executeAir St l inp
    o.retCode = (St.sizeErr (.air inp.air.utf8ByteSize l.airSizeLimit)).code ∧
    o.data = inp.prev ∧ o.nextPeerPks = [] ∧ o.callRequests = St.emptyCallRequests := by
  simp [executeAir, checkAgainstSizeLimits, handleLimitExceeding, hh, ha, fromUncatchableError]

/-- Hard mode, script within its limit, current data larger than the particle limit. -/
theorem C22_hard_particle (St : Stages B D S A C K X) (l : Limits) (inp : RunInput B)
    (hh : l.hardLimitEnabled = true)
    (ha : ¬ l.airSizeLimit < inp.air.utf8ByteSize)
    (hp : l.particleSizeLimit < St.blob.len inp.cur) :
    let o := executeAir St l inp
    o.retCode = (St.sizeErr (.particle (St.blob.len inp.cur) l.particleSizeLimit)).code ∧
    o.data = inp.prev ∧ o.nextPeerPks = [] ∧ o.callRequests = St.emptyCallRequests := by
  simp [executeAir, checkAgainstSizeLimits, handleLimitExceeding, hh, ha, hp, fromUncatchableError]

/-- Hard mode, script and particle within limits, the earlier stages pass, and some call result is
larger than the call-result limit. -/
theorem C22_hard_call_result (St : Stages B D S A C K X) (l : Limits) (inp : RunInput B) (crs : C)
    (hh : l.hardLimitEnabled = true)
    (ha : ¬ l.airSizeLimit < inp.air.utf8ByteSize)
    (hp : ¬ l.particleSizeLimit < St.blob.len inp.cur)
    (hr : reachedCallResults St inp = some crs)
    (hc : anyExceeds l.callResultSizeLimit (St.resultLens crs) = true) :
    let o := executeAir St l inp
    o.retCode = (St.sizeErr (.callResult l.callResultSizeLimit)).code ∧
    o.data = inp.prev ∧ o.nextPeerPks = [] ∧ o.callRequests = St.emptyCallRequests := by
  unfold reachedCallResults at hr
  split at hr <;> try contradiction
  rename_i p c hpd
  split at hr <;> try contradiction
  rename_i s hv
  split at hr <;> try contradiction
  rename_i a hpa
  split at hr <;> cases hr
  rename_i hde
  simp only [executeAir, checkAgainstSizeLimits, ha, hp, hpd, hv, hpa, hde, checkCallResults, handleLimitExceeding, hh, hc,
    fromUncatchableError, if_true, if_false, and_self]

/-- "nothing exceeds `l`" for the sizes of this input -/
def NothingExceeds (St : Stages B D S A C K X) (l : Limits) (inp : RunInput B) : Prop :=
  ¬ l.airSizeLimit < inp.air.utf8ByteSize ∧ ¬ l.particleSizeLimit < St.blob.len inp.cur ∧
  ∀ crs, reachedCallResults St inp = some crs → anyExceeds l.callResultSizeLimit (St.resultLens crs) = false

theorem expectedFlags_none (St : Stages B D S A C K X) (l : Limits) (inp : RunInput B)
    (hn : NothingExceeds St l inp) : expectedFlags St l inp = {} := by
  obtain ⟨ha, hp, hc⟩ := hn
  unfold expectedFlags
  cases hr : reachedCallResults St inp with
  | none => simp [ha, hp]
  | some crs => simp [ha, hp, hc crs hr]

/-- no limit check of the run under `l` ends it: each check only reports its flag -/
def Passes (St : Stages B D S A C K X) (l : Limits) (inp : RunInput B) : Prop :=
  checkAgainstSizeLimits l inp.air.utf8ByteSize (St.blob.len inp.cur) =
    .ok ⟨decide (l.airSizeLimit < inp.air.utf8ByteSize), decide (l.particleSizeLimit < St.blob.len inp.cur), false⟩ ∧
  ∀ crs, reachedCallResults St inp = some crs →
    checkCallResults l (St.resultLens crs) = .ok (anyExceeds l.callResultSizeLimit (St.resultLens crs))

theorem passes_of_soft (St : Stages B D S A C K X) {l : Limits} (inp : RunInput B) (hs : l.hardLimitEnabled = false) :
    Passes St l inp := by
  refine ⟨?_, fun crs _ => ?_⟩
  · by_cases h1 : l.airSizeLimit < inp.air.utf8ByteSize <;> by_cases h2 : l.particleSizeLimit < St.blob.len inp.cur <;>
      simp [checkAgainstSizeLimits, handleLimitExceeding, hs, h1, h2]
  · cases h : anyExceeds l.callResultSizeLimit (St.resultLens crs) <;> simp [checkCallResults, handleLimitExceeding, hs, h]

theorem passes_of_nothingExceeds {St : Stages B D S A C K X} {l : Limits} {inp : RunInput B} (hn : NothingExceeds St l inp) :
    Passes St l inp :=
  ⟨by simp [checkAgainstSizeLimits, hn.1, hn.2.1], fun crs h => by simp [checkCallResults, hn.2.2 crs h]⟩

theorem finish_flags (St : Stages B D S A C K X) (prev : B) (kp : K) (f f' : Flags) (salt : String) (exit : ExecExit) (x : X) :
    finish St prev kp f salt exit x = { finish St prev kp f' salt exit x with flags := f } := by
  unfold finish populateOutcome
  split
  · rfl
  · split
    · split <;> split <;> rfl
    · split <;> rfl
    · rfl

theorem executeAir_of_passes {St : Stages B D S A C K X} {l l' : Limits} {inp : RunInput B}
    (h : Passes St l inp) (h' : Passes St l' inp) :
    executeAir St l inp = { executeAir St l' inp with flags := expectedFlags St l inp } := by
  cases hpd : St.parseData inp.prev inp.cur with
  | error e => simp only [executeAir, expectedFlags, reachedCallResults, h.1, h'.1, hpd]; rfl
  | ok pc =>
  obtain ⟨p, c⟩ := pc
  cases hv : St.verify p c inp.params.particleId with
  | error e => simp only [executeAir, expectedFlags, reachedCallResults, h.1, h'.1, hpd, hv]; rfl
  | ok s =>
  cases hpa : St.parseAir inp.air with
  | error e => simp only [executeAir, expectedFlags, reachedCallResults, h.1, h'.1, hpd, hv, hpa]; rfl
  | ok a =>
  cases hde : St.deCallResults inp.callResults with
  | error e => simp only [executeAir, expectedFlags, reachedCallResults, h.1, h'.1, hpd, hv, hpa, hde]; rfl
  | ok crs =>
  have hr : reachedCallResults St inp = some crs := by simp only [reachedCallResults, hpd, hv, hpa, hde]
  simp only [executeAir, expectedFlags, hr, h.1, h'.1, hpd, hv, hpa, hde, h.2 crs hr, h'.2 crs hr]
  cases St.keypair inp.params with
  | error e => rfl
  | ok kp => exact finish_flags ..

/-- Soft mode = unlimited run + flags.  In soft mode the outcome is exactly the outcome of the same
run under any limits `l'` that nothing exceeds (`l'` in either mode), except that the flags are the
expected ones. -/
theorem C22_soft_equiv (St : Stages B D S A C K X) (l l' : Limits) (inp : RunInput B)
    (hs : l.hardLimitEnabled = false)
    (hn : NothingExceeds St l' inp) :
    executeAir St l inp = { executeAir St l' inp with flags := expectedFlags St l inp } :=
  executeAir_of_passes (passes_of_soft St inp hs) (passes_of_nothingExceeds hn)

/-- Inputs at or below every limit never trigger a limit, in either mode: no flag is raised and
the outcome is the same as under any other limits that nothing exceeds. -/
theorem C22_at_or_below_never_triggers (St : Stages B D S A C K X) (l : Limits) (inp : RunInput B)
    (hn : NothingExceeds St l inp) :
    (executeAir St l inp).flags = {} ∧
    ∀ l', NothingExceeds St l' inp → executeAir St l inp = executeAir St l' inp := by
  have key : ∀ l₁, NothingExceeds St l₁ inp → executeAir St l₁ inp = { executeAir St l inp with flags := {} } :=
    fun l₁ h₁ => by
      rw [executeAir_of_passes (passes_of_nothingExceeds h₁) (passes_of_nothingExceeds hn), expectedFlags_none St l₁ inp h₁]
  have hself := key l hn
  refine ⟨?_, ?_⟩
  · rw [hself]
  · intro l' hl'
    rw [key l' hl', ← hself]

/-- toy stages: blobs are byte lists, every stage succeeds, one call result of the length of the bytes -/
def toy : Stages Bytes Unit Unit Unit Bytes Unit Unit where
  blob := { len := List.length, empty := [] }
  parseData := fun _ _ => .ok ((), ())
  verify := fun _ _ _ => .ok ()
  parseAir := fun _ => .ok ()
  deCallResults := fun b => .ok b
  resultLens := fun b => [b.length]
  keypair := fun _ => .ok ()
  execute := fun _ _ _ _ _ _ => (.ok, ())
  signProduced := fun x _ _ => .ok x
  leftover := fun _ => none
  populate := fun _ _ => .ok { data := [1], nextPeerPks := ["p"], callRequests := [2] }
  sizeErr := fun _ => ⟨10, "size"⟩
  emptyCallRequests := [0x80]

def toyInput : RunInput Bytes :=
  { air := "(null)", prev := [7], cur := [1, 2, 3], params := default, callResults := [9, 9] }

example : reachedCallResults toy toyInput = some [9, 9] := rfl
example : anyExceeds 1 (toy.resultLens [9, 9]) = true := by decide
example : NothingExceeds toy ⟨6, 3, 2, true⟩ toyInput := by
  refine ⟨by decide, by decide, ?_⟩
  intro crs h; cases h; decide
example : (executeAir toy ⟨6, 3, 1, true⟩ toyInput).retCode = 10 := by decide
example : (executeAir toy ⟨6, 3, 1, false⟩ toyInput).flags = ⟨false, false, true⟩ := by decide

end AquaProps.C22
