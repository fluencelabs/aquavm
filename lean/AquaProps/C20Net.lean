import AquaProps.Lemmas.NetLift
import AquaProps.C20
/-!
# C20 along whole histories (`Aqua.Net`)

`C20_store_keys_distinct` needs the CID stores of the starting context to have distinct keys.  Along honest
histories this is derived: the empty stores are distinct, merging incoming stores into distinct ones keeps them
distinct (`upsert`), every script keeps them distinct, hosts store what runs return.  So the stores of every
data a host ever holds have distinct keys, and any serialisation order of such a store decodes to the same
lookups — for every script, services and schedule.
-/
namespace AquaProps.C20
open Aqua Aqua.Exec Aqua.Air Aqua.Data Aqua.Net AquaProps AquaProps.NetLift

theorem keysNodup_mergeStores {β : Type} (prev cur : List (String × β)) (h : KeysNodup prev) : KeysNodup (mergeStores prev cur) :=
  mergeStores_induction h fun _ _ _ hl => keysNodup_upsert _ _ _ hl

theorem storesOK_initCtx (prev cur : DataIn) (p : RunParams) (results : List (String × CallServiceResult)) (h : StoresOK prev.cid) :
    StoresOK (initCtx prev cur p results).cid :=
  ⟨keysNodup_mergeStores _ _ h.values, keysNodup_mergeStores _ _ h.tetraplets, keysNodup_mergeStores _ _ h.serviceResults,
   keysNodup_mergeStores _ _ h.canonElements, keysNodup_mergeStores _ _ h.canonResults⟩

theorem storesOK_empty : StoresOK ({} : DataIn).cid :=
  ⟨List.nodup_nil, List.nodup_nil, List.nodup_nil, List.nodup_nil, List.nodup_nil⟩

theorem genuine_newData_storesOK {env : Env} {P : Particle} {r : Run} (hg : Genuine env P r) (hp : StoresOK r.prev.cid) :
    StoresOK r.newData.cid := by
  unfold Run.newData
  split
  · show StoresOK r.out.cid
    rw [hg.frame.cid]
    exact C20_store_keys_distinct env r.fuel P.script _ (storesOK_initCtx r.prev r.cur _ r.results hp)
  · exact hp

structure DistinctNet (st : NetSt) : Prop where
  stored : ∀ q, StoresOK (peerSt st q).data.cid
  wire : ∀ m ∈ st.wire, StoresOK m.data.cid

theorem distinctNet_absorb {env : Env} {P : Particle} {st : NetSt} (h : DistinctNet st) (r : Run) (hg : Genuine env P r)
    (hp : r.prev = (peerSt st r.peer).data) : DistinctNet (absorb st r) :=
  have ⟨hs, hw⟩ := data_absorb (Q := fun d => StoresOK d.cid) h.stored h.wire
    (genuine_newData_storesOK hg (hp ▸ h.stored r.peer))
  ⟨hs, hw⟩

/-- Along any honest history the CID stores of every data a host holds or has sent have distinct keys (so
every serialisation order of such a store decodes to the same lookups: `C20_stores_order_irrelevant`). -/
theorem C20_network_store_keys_distinct (env : Env) (svc : Services) (P : Particle) (st : NetSt) (h : Reachable env svc P st) :
    (∀ q, StoresOK (peerSt st q).data.cid) ∧ ∀ m ∈ st.wire, StoresOK m.data.cid := by
  have := reachable_induction_invoke DistinctNet ⟨fun _ => storesOK_empty, fun m hm => by cases hm⟩
    (fun _ _ hw h => ⟨h.stored, fun m hm => h.wire m (hw.subset hm)⟩)
    (fun _ _ _ _ h _ => distinctNet_absorb h _ (invoke_genuine ..) rfl) h
  exact ⟨this.stored, this.wire⟩

end AquaProps.C20
