import AquaProps.Lemmas.NetLift
import AquaProps.C03
/-!
# C03 for the data a host actually receives, along whole histories

`C03_own_results_signed` speaks about the context at the end of the execution stage.  What the host gets
is that context after the farewell compaction of all streams (`runExecFarewell`).  Compaction only rewrites
generation numbers, so the statement carries over to the returned data, and — through the network
invariant — to every run of every honest history.
-/
namespace AquaProps.C03
open Aqua Aqua.Exec Aqua.Air Aqua.Data Aqua.Trace Aqua.Net AquaProps AquaProps.NetLift

theorem sameCids_descs : ∀ (ds ds' : List StreamDesc) (th th' : TraceHandler),
    Ctx.compactifyStreams.descs ds th = .ok (ds', th') → SameCids th th'
  | [], _, th, th', h => by cases h; exact SameCids.refl _
  | d :: rest, ds', th, th', h => by
    unfold Ctx.compactifyStreams.descs at h
    split at h
    · rename_i hc
      split at h
      · cases h; exact SameCids.trans (sameCids_compactify hc) (sameCids_descs rest _ _ _ ‹_›)
      · cases h
      · cases h
    · cases h
    · cases h

theorem sameCids_all : ∀ (l l' : List (String × List StreamDesc)) (th th' : TraceHandler),
    Ctx.compactifyStreams.all l th = .ok (l', th') → SameCids th th'
  | [], _, th, th', h => by cases h; exact SameCids.refl _
  | (n, ds) :: rest, l', th, th', h => by
    unfold Ctx.compactifyStreams.all at h
    split at h
    · rename_i hd
      split at h
      · cases h; exact SameCids.trans (sameCids_descs ds _ _ _ hd) (sameCids_all rest _ _ _ ‹_›)
      · cases h
      · cases h
    · cases h
    · cases h

theorem compactifyStreams_sameCids {c c' : Ctx} (h : c.compactifyStreams = .ok c') :
    SameCids c.th c'.th ∧ c'.peerCids = c.peerCids ∧ c'.currentPeerId = c.currentPeerId := by
  obtain ⟨_, _, hall, rfl⟩ := compactifyStreams_eq_ok h
  exact ⟨sameCids_all _ _ _ _ hall, rfl, rfl⟩

/-- The data handed to the host is signed exactly for the peer's own results: `C03_own_results_signed`
for the outcome of the whole run including the farewell compaction, on every exit. -/
theorem C03_returned_data_signed (env : Env) (fuel : Nat) (script : Instr) (prev cur : DataIn) (p : RunParams)
    (results : List (String × CallServiceResult)) :
    ∃ ds : List (String × Cid),
      callCids (runExecFarewell env fuel script prev cur p results).2.th.keeper.resultTrace = ds.map (·.2) ∧
      (runExecFarewell env fuel script prev cur p results).2.peerCids = ownOf p.currentPeerId ds := by
  -- carried through the compaction together with the inserter invariant, under which `SameCids` keeps the signed ids
  refine (farewell_of (Q := fun c => InsOK c.th ∧ ∃ ds : List (String × Cid),
      callCids c.th.keeper.resultTrace = ds.map (·.2) ∧ c.peerCids = ownOf p.currentPeerId ds)
    (fun c c' hc ⟨hw, ds, h1, h2⟩ => ?_) env fuel script prev cur p results
    ⟨C03_par_inserters_valid env fuel script _ (fun f hf => by cases hf), C03_own_results_signed env fuel script prev cur p results⟩).2
  obtain ⟨hg, hp, _⟩ := compactifyStreams_sameCids hc
  exact ⟨(hg hw).1, ds, (hg hw).2.trans h1, hp.trans h2⟩

/-- Along any honest history: for every run of every reachable state of the network (any script, services
and schedule) the ids registered for the running peer's signature are exactly the ids of the results its run
left in the returned trace at calls addressed to that peer. -/
theorem C03_network_own_results_signed (env : Env) (svc : Services) (P : Particle) (st : NetSt)
    (h : Reachable env svc P st) : ∀ r ∈ st.runs, ∃ ds : List (String × Cid),
      callCids r.out.th.keeper.resultTrace = ds.map (·.2) ∧ r.out.peerCids = ownOf r.peer ds := by
  intro r hr
  rw [((reachable_inv h).genuine r hr).out]
  exact C03_returned_data_signed env r.fuel P.script r.prev r.cur (params P r) r.results

end AquaProps.C03
