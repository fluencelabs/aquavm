import Aqua.Exec.Exec
import AquaProps.Lemmas.ExecRel
/-!
# C11 — a canonicalized stream is fixed once and identical everywhere

Theorems about the three `canon` instructions of the executor model (`canon.rs`, `canon_map.rs`,
`canon_stream_map_scalar.rs`, `canon_utils/mod.rs`; `CanonTarget` says which of a canon stream, a canon stream
map or a scalar is bound), for EVERY context and EVERY target.

History level (every peer binds the designated peer's first snapshot) additionally needs that the
`Executed` state is retained by every later merge (C09) and that the stores keep the referenced entries
(C03/C20); those are covered per step by the oracles, not proved here.
-/
namespace AquaProps.C11
open Aqua Aqua.Exec Aqua.Air Aqua.Json Aqua.Data Aqua.Trace AquaProps

theorem canonRead_ignores_streams (env : Env) (peer : Value) (cid : Cid) (c : Ctx) (streams' : List (String × List StreamDesc)) :
    canonRead env peer cid { c with streams := streams' } = canonRead env peer cid c := by
  unfold canonRead
  have : resolveToString { c with streams := streams' } peer = resolveToString c peer := by
    cases peer <;> rfl
  rw [this]

theorem canonBind_ignores_streams (target : CanonTarget) (cs : CanonStream) (cid : Cid) (c : Ctx) (streams' : List (String × List StreamDesc)) :
    canonBind target cs cid { c with streams := streams' } = canonBind target cs cid c := by
  cases target <;> rfl

/-- The live stream is irrelevant once the canon is executed: replacing the stream store of the
context by anything else changes neither the outcome, nor the bound canon stream, nor the trace, nor the
registered ids — the resulting context is the same up to that very replacement. -/
theorem C11_executed_ignores_streams (env : Env) (name : CanonTarget) (peer : Value) (cid : Cid) (c : Ctx)
    (streams' : List (String × List StreamDesc)) :
    (canonExecuted env name peer cid { c with streams := streams' }).1 = (canonExecuted env name peer cid c).1 ∧
    (canonExecuted env name peer cid { c with streams := streams' }).2 =
      { (canonExecuted env name peer cid c).2 with streams := streams' } := by
  unfold canonExecuted canonFinish
  simp only [bind_apply, readER, modifyER, canonRead_ignores_streams]
  cases canonRead env peer cid c with
  | ok cs =>
    simp only [bind, Res.bind, pure, canonBind_ignores_streams]
    cases canonBind name cs cid c with
    | ok sc => simp only [recordCanonCid_eq, and_self]
    | _ => exact ⟨rfl, rfl⟩
  | _ => exact ⟨rfl, rfl⟩

/-- The bound value is a function of the content id, the stores and the resolved peer: when an executed
canon is accepted, what is bound under the canon's name (`canonBind`: the canon stream, the canon map built from
it by `CanonStreamMap::from_canon_stream`, or its single value as a scalar) is computed from `canonRead` of its id. -/
theorem C11_bound_value_function_of_cid (env : Env) (name : CanonTarget) (peer : Value) (cid : Cid) (c : Ctx)
    (h : (canonExecuted env name peer cid c).1 = .ok ()) :
    ∃ cs sc, canonRead env peer cid c = .ok cs ∧ canonBind name cs cid c = .ok sc ∧
      (canonExecuted env name peer cid c).2.scalars = sc := by
  unfold canonExecuted at h ⊢
  simp only [bind_apply, readER] at h ⊢
  cases hr : canonRead env peer cid c with
  | ok cs =>
    simp only [hr] at h ⊢
    unfold canonFinish modifyER at h ⊢
    cases hs : canonBind name cs cid c with
    | ok sc =>
      simp only [hs, bind, Res.bind, pure] at h ⊢
      exact ⟨cs, sc, rfl, hs, rfl⟩
    | _ => simp [hs, bind, Res.bind] at h
  | _ => simp [hr] at h

/-- the context change of a canon addressed elsewhere: no binding, no store change, a request state -/
structure NotCreated (c c' : Ctx) : Prop where
  scalars : c'.scalars = c.scalars
  cid : c'.cid = c.cid
  peerCids : c'.peerCids = c.peerCids
  pushed : ∃ s, c'.th.keeper.resultTrace = c.th.keeper.resultTrace ++ [.canon (.requestSentBy s)]

/-- A canon is created only at its designated peer: when no state exists yet (`met = .empty`) or only a
request (`met = .canonResult (.requestSentBy _)`), and the resolved peer is not the current peer, the
instruction binds nothing, tracks nothing, registers nothing and pushes a request state. -/
theorem C11_created_only_at_target (env : Env) (i : Instr) (peer : Value) (stream : String) (pos : Nat) (name : CanonTarget)
    (c : Ctx) (th' : TraceHandler) (met : MergerCanonResult) (peerId : String)
    (hm : c.th.meetCanonStart = .ok (met, th')) (hmet : met = .empty ∨ ∃ s, met = .canonResult (.requestSentBy s))
    (hp : resolveToString { c with th := th' } peer = .ok peerId) (hne : peerId ≠ c.currentPeerId) :
    NotCreated { c with th := th' } (execCanon env i peer stream pos name c).2 := by
  have hbne : (c.currentPeerId != peerId) = true := bne_iff_ne.mpr (Ne.symm hne)
  unfold execCanon
  rw [bind_of_ok (show liftTH i _ c = (.ok met, { c with th := th' }) by rw [liftTH_apply, hm])]
  rcases hmet with rfl | ⟨s, rfl⟩
  · dsimp only
    rw [bind_of_ok (joinable_of_ok (readER_of_ok hp))]
    dsimp only
    rw [bind_readCtx]
    simp only [hbne, if_true]
    exact ⟨rfl, rfl, rfl, c.currentPeerId, rfl⟩
  · dsimp only
    rw [bind_of_ok (readER_of_ok hp), bind_readCtx]
    simp only [hbne, if_true]
    exact ⟨rfl, rfl, rfl, s, rfl⟩

/-- The first execution snapshots the stream in its iteration order: the values put into the canon are
exactly `Stream::iter()` of the instance visible at the canon's position — previous, then current, then
new values, each by generation. -/
theorem C11_snapshot_is_iteration_order (env : Env) (target : CanonTarget) (hts : ∀ n, target ≠ .scalar n)
    (stream : String) (pos : Nat) (peerId : String) (c : Ctx) (s : Stream)
    (hs : c.getStream stream pos = some s) :
    (updCanonTrack env target stream pos peerId c).1.1.values = s.prev.all ++ s.cur.all ++ s.new.all ∧
    (updCanonTrack env target stream pos peerId c).1.1.tetraplet = { peerPk := peerId } := by
  unfold updCanonTrack canonProduce
  simp only [hs]
  cases target with
  | stream n | map n => exact ⟨rfl, rfl⟩
  | scalar n => exact absurd rfl (hts n)

example : ∀ n, CanonTarget.map "#%m" ≠ .scalar n := by intro n h; cases h

/-- The scalar form of a map canon (`canon peer %map scalar`) snapshots ONE literal value: the object of the
map's unique rendered keys (first pair of every key, in the stream map's iteration order) -/
theorem C11_map_scalar_snapshot (env : Env) (name : String) (map : String) (pos : Nat) (peerId : String) (c : Ctx) (s : Stream)
    (hs : c.getStream map pos = some s) :
    (updCanonTrack env (.scalar name) map pos peerId c).1.1.values =
      [⟨JVal.mkObj (iterUniqueKeyObject (s.prev.all ++ s.cur.all ++ s.new.all) []), Tetraplet.literal peerId, 0, .literal⟩] := by
  unfold updCanonTrack canonProduce
  simp only [hs]
  rfl

/-- An executed canon map is rebuilt from the stores only: the instance of `C11_executed_ignores_streams` for
`canon peer %map #%canon_map` — the live stream map plays no role once `Executed(cid)` is in the data. -/
theorem C11_executed_map_ignores_streams (env : Env) (name : String) (peer : Value) (cid : Cid) (c : Ctx)
    (streams' : List (String × List StreamDesc)) :
    (canonExecuted env (.map name) peer cid { c with streams := streams' }).1 = (canonExecuted env (.map name) peer cid c).1 ∧
    (canonExecuted env (.map name) peer cid { c with streams := streams' }).2 =
      { (canonExecuted env (.map name) peer cid c).2 with streams := streams' } :=
  C11_executed_ignores_streams env (.map name) peer cid c streams'

/-- the pairs of a canon map built from a canon stream are the canon stream's values, in order -/
theorem C11_canon_map_values (cs : CanonStream) (m : CanonStreamMapAgg) (h : CanonStreamMapAgg.fromCanonStream cs = .ok m) :
    m.values = cs.values ∧ m.tetraplet = cs.tetraplet :=
  fromCanonStream_eq_ok h

/-- Two different results for one canon instruction are incompatible: the merger refuses them, so a
peer can never hold two canonical values for one instruction. -/
theorem C11_merge_rejects_two_results (a b : Cid) (h : a ≠ b) :
    mergeCanonResults (.executed a) (.executed b) = .error .incorrectCanonResult := by
  unfold mergeCanonResults
  simp [h]

/-- equal results merge to that result (the previous one is kept) -/
theorem C11_merge_keeps_equal (a : Cid) : mergeCanonResults (.executed a) (.executed a) = .ok (.executed a) := by
  unfold mergeCanonResults; simp

/-- a result always wins over a request, from whichever side it comes -/
theorem C11_merge_result_wins (a : Cid) (p : String) :
    mergeCanonResults (.requestSentBy p) (.executed a) = .ok (.executed a) ∧
    mergeCanonResults (.executed a) (.requestSentBy p) = .ok (.executed a) := by
  unfold mergeCanonResults; exact ⟨rfl, rfl⟩

end AquaProps.C11
