import Aqua.Crypto.CidVerify
import AquaProps.Lemmas.JsonObj
import AquaProps.Lemmas.JsonEq
import AquaProps.Lemmas.CidText
/-!
# C25 — content ids are canonical and verification accepts exactly the matching pairs

Model: `Aqua.Crypto.CidVerify` (the four public functions of `air-interpreter-cid` over the `cid`,
`multihash`, `multibase`, `data-encoding`, `base-x`, `unsigned-varint` crates), `Aqua.Json.Value`
(`JValue` with `BTreeMap` objects and the compact printer of `serde_json`).

The hash functions are a parameter `H : Hashers` of every theorem (they hold for any pair of functions);
where the 32-byte digest size matters it is the hypothesis `HashersWf H`.  Constants (`JSON_CODEC`, the
multihash codes, the `Code::X => hasher` arms of the two verify functions, the code and constructor used by
the two producing functions) come from `Aqua.Gen.Cid`, regenerated from the Rust source on every check;
`C25_constants` pins what the statements below rely on.
-/
namespace AquaProps.C25
open Aqua Aqua.Json Aqua.Crypto.Multibase Aqua.Crypto.CidVerify AquaProps.JsonObj AquaProps.CidText

/-- both hashers have 32-byte digests (true of SHA-256 and BLAKE3-256) -/
structure HashersWf (H : Hashers) : Prop where
  sha256_len : ∀ b, (H.sha256 b).length = 32
  blake3_len : ∀ b, (H.blake3 b).length = 32

theorem hasher_len {H : Hashers} (hw : HashersWf H) (alg : Code) (b : Bytes) : (alg.hasher H b).length = 32 := by
  cases alg
  · exact hw.sha256_len b
  · exact hw.blake3_len b

/-- What the generated tables say: the JSON codec is `0x0200`; SHA2-256 is code `0x12`, BLAKE3-256 is `0x1e`;
both verify functions recompute the digest for exactly these two codes with the matching hasher; both
producing functions make a CIDv1 with `JSON_CODEC` and the BLAKE3-256 multihash; CIDv0 carries dag-pb. -/
theorem C25_constants :
    JSON_CODEC = 0x0200 ∧ Code.Sha2_256.toU64 = 0x12 ∧ Code.Blake3_256.toU64 = 0x1e ∧ DAG_PB = 0x70 ∧
    Gen.Cid.verifyValueArms.filterMap Code.ofArm = [.Sha2_256, .Blake3_256] ∧
    Gen.Cid.verifyRawValueArms.filterMap Code.ofArm = [.Sha2_256, .Blake3_256] ∧
    Gen.Cid.verifyValueArms.length = 2 ∧ Gen.Cid.verifyRawValueArms.length = 2 ∧
    producerCode Gen.Cid.valueToJsonCid = some .Blake3_256 ∧
    producerCode Gen.Cid.rawValueToJsonCid = some .Blake3_256 ∧
    Gen.Cid.verifyValueCodecGuard = "eq" ∧ Gen.Cid.verifyRawValueCodecGuard = "eq" ∧
    Gen.Cid.verifyValueCompare = "expected_hash == mhash.digest()" ∧
    Gen.Cid.verifyRawValueCompare = "expected_hash == mhash.digest()" ∧
    Gen.Cid.cidV1DisplayBase = "Base32Lower" ∧
    Gen.Cid.multibaseCodes = Base.all.map (fun b => (b.code.toNat, b.name)) := by decide +kernel

theorem code_toU64_inj (a b : Code) (h : a.toU64 = b.toU64) : a = b := by
  cases a <;> cases b
  · rfl
  · exact absurd h (by decide)
  · exact absurd h (by decide)
  · rfl

/-- Objects are canonical.  Two insertion sequences of (key, value) pairs — any order, with
duplicates, the later pair winning as `BTreeMap::insert` does — build the same `JValue` iff they end up
with the same key→value map. -/
theorem C25_object_eq_iff (l₁ l₂ : List (String × JVal)) :
    JVal.mkObj l₁ = JVal.mkObj l₂ ↔ ∀ k, finalMap l₁ k = finalMap l₂ k :=
  mkObj_eq_iff l₁ l₂

/-- The id is a function of the value only.  Whatever the insertion order and duplicates, objects
with the same final key→value map are the same value, are serialised to the same bytes and get the same
id — also when the object sits anywhere inside a larger value (`ctx`). -/
theorem C25_cid_function_of_value (H : Hashers) (l₁ l₂ : List (String × JVal))
    (h : ∀ k, finalMap l₁ k = finalMap l₂ k) (ctx : JVal → JVal) :
    ctx (JVal.mkObj l₁) = ctx (JVal.mkObj l₂) ∧
    jsonBytes (ctx (JVal.mkObj l₁)) = jsonBytes (ctx (JVal.mkObj l₂)) ∧
    valueToJsonCid H (ctx (JVal.mkObj l₁)) = valueToJsonCid H (ctx (JVal.mkObj l₂)) := by
  have := (mkObj_eq_iff l₁ l₂).mpr h
  rw [this]
  exact ⟨rfl, rfl, rfl⟩

/-- Key-order permutations of pairs with distinct keys give the same id. -/
theorem C25_cid_permutation_invariant (H : Hashers) (l₁ l₂ : List (String × JVal))
    (hp : l₁.Perm l₂) (hn : (l₁.map Prod.fst).Nodup) (ctx : JVal → JVal) :
    valueToJsonCid H (ctx (JVal.mkObj l₁)) = valueToJsonCid H (ctx (JVal.mkObj l₂)) :=
  (C25_cid_function_of_value H l₁ l₂ (finalMap_perm hp hn) ctx).2.2

/-- The object built by `mkObj` is the sorted, duplicate-free table of the final map (what `BTreeMap`
iteration yields), so the printed text lists each key once, in byte order. -/
theorem C25_object_sorted (l : List (String × JVal)) :
    ∃ kvs, JVal.mkObj l = .obj kvs ∧ Sorted kvs ∧ ∀ k, kvs.lookup k = finalMap l k :=
  mkObj_sorted_lookup l

theorem valueToJsonCid_eq_raw (H : Hashers) (v : JVal) : valueToJsonCid H v = rawValueToJsonCid H (jsonBytes v) := by
  unfold valueToJsonCid rawValueToJsonCid
  rw [show Gen.Cid.valueToJsonCid = Gen.Cid.rawValueToJsonCid from rfl]

/-- Equal values get equal ids — for the model's values: values that are `==` (structurally equal, floats
compared by their printed text) are the same value, and values with equal serialisations get equal ids: the id
depends on nothing but the serialised bytes (no peer, no state), `value_to_json_cid v =
raw_value_to_json_cid (to_vec v)`.

Partial with respect to `C25_equal_values_full`: the interpreter's own `==` on `JValue` compares float numbers
with `f64 ==`; the model carries floats as their printed text and cannot express that. -/
theorem C25_equal_values_equal_ids_partial (H : Hashers) (v₁ v₂ : JVal) :
    ((v₁ == v₂) = true → v₁ = v₂) ∧
    (jsonBytes v₁ = jsonBytes v₂ → valueToJsonCid H v₁ = valueToJsonCid H v₂) ∧
    valueToJsonCid H v₁ = rawValueToJsonCid H (jsonBytes v₁) :=
  ⟨AquaProps.JsonEq.beq_iff v₁ v₂, congrArg (rawValueToJsonCidWith H _), valueToJsonCid_eq_raw H v₁⟩

/-- The full statement, with `eqv` standing for `JValue`'s `PartialEq` (derived; numbers by
`serde_json::Number`, floats with `f64 ==`).  It is NOT proved, and it is FALSE of the real code:
`JValue::from(0.0) == JValue::from(-0.0)` while their ids differ (they print as `0.0` / `-0.0`) — the
direct oracle of the harness reports it (finding `equal-jvalues-zero-sign-different-ids`).  For all other
values `eqv` coincides with the model's `==` and `C25_equal_values_equal_ids_partial` applies. -/
def C25_equal_values_full (H : Hashers) (eqv : JVal → JVal → Bool) : Prop :=
  ∀ v₁ v₂, eqv v₁ v₂ = true → valueToJsonCid H v₁ = valueToJsonCid H v₂

theorem rawValueToJsonCid_eq (H : Hashers) (raw : Bytes) (h : (H.blake3 raw).length ≤ 64) :
    rawValueToJsonCid H raw =
      .ok (Cid.newV1 JSON_CODEC ⟨Code.Blake3_256.toU64, H.blake3 raw⟩).toStringV1 := by
  have hp : producerCode Gen.Cid.rawValueToJsonCid = some .Blake3_256 := by decide
  unfold rawValueToJsonCid rawValueToJsonCidWith
  rw [hp]
  simp only [Code.hasher, Multihash.wrap, allocSize]
  have : ¬ (H.blake3 raw).length > 64 := by omega
  simp [this]

theorem arms_value : Gen.Cid.verifyValueArms.filterMap Code.ofArm = [.Sha2_256, .Blake3_256] := C25_constants.2.2.2.2.1
theorem arms_raw : Gen.Cid.verifyRawValueArms.filterMap Code.ofArm = [.Sha2_256, .Blake3_256] := C25_constants.2.2.2.2.2.1

theorem expectedHash_spec (H : Hashers) (arms : List (String × String))
    (ha : arms.filterMap Code.ofArm = [.Sha2_256, .Blake3_256]) (rawCode : Nat) (bytes : Bytes) :
    (∃ alg : Code, alg.toU64 = rawCode ∧ expectedHash H arms rawCode bytes = .ok (alg.hasher H bytes)) ∨
    ((∀ alg : Code, alg.toU64 ≠ rawCode) ∧ expectedHash H arms rawCode bytes = .error (.UnsupportedHashCode rawCode)) := by
  unfold expectedHash
  rw [ha]
  by_cases h1 : Code.Sha2_256.toU64 = rawCode
  · exact .inl ⟨.Sha2_256, h1, by simp [List.find?, h1]⟩
  have e1 := beq_false_of_ne h1
  by_cases h2 : Code.Blake3_256.toU64 = rawCode
  · exact .inl ⟨.Blake3_256, h2, by simp [List.find?, e1, h2]⟩
  · exact .inr ⟨fun alg => by cases alg <;> assumption, by simp [List.find?, e1, beq_false_of_ne h2]⟩

/-- the common body of the two verify functions, once the text is parsed -/
def verifyParsed (H : Hashers) (arms : List (String × String)) (c : Cid) (bytes : Bytes) : Except CidVerificationError Unit :=
  if c.codec != JSON_CODEC then .error (.UnsupportedCidCodec c.codec)
  else
    match expectedHash H arms c.hash.code bytes with
    | .error e => .error e
    | .ok expected => if expected == c.hash.digest then .ok () else .error .ValueMismatch

theorem verifyRawValue_eq (H : Hashers) (cid raw : Bytes) :
    verifyRawValue H cid raw =
      match Cid.tryFromStr cid with
      | .error e => .error (.MalformedCid e)
      | .ok c => verifyParsed H Gen.Cid.verifyRawValueArms c raw := by
  unfold verifyRawValue verifyParsed
  cases Cid.tryFromStr cid <;> rfl

theorem verifyRawValue_parsed (H : Hashers) {cid : Bytes} {c : Cid} (hp : Cid.tryFromStr cid = .ok c) (raw : Bytes) :
    verifyRawValue H cid raw = verifyParsed H Gen.Cid.verifyRawValueArms c raw := by
  rw [verifyRawValue_eq, hp]

theorem verifyParsed_spec (H : Hashers) (arms : List (String × String))
    (ha : arms.filterMap Code.ofArm = [.Sha2_256, .Blake3_256]) (c : Cid) (bytes : Bytes) :
    (c.codec ≠ JSON_CODEC ∧ verifyParsed H arms c bytes = .error (.UnsupportedCidCodec c.codec)) ∨
    (c.codec = JSON_CODEC ∧ (∀ alg : Code, alg.toU64 ≠ c.hash.code) ∧
        verifyParsed H arms c bytes = .error (.UnsupportedHashCode c.hash.code)) ∨
    (c.codec = JSON_CODEC ∧ ∃ alg : Code, alg.toU64 = c.hash.code ∧
        ((c.hash.digest = alg.hasher H bytes ∧ verifyParsed H arms c bytes = .ok ()) ∨
         (c.hash.digest ≠ alg.hasher H bytes ∧ verifyParsed H arms c bytes = .error .ValueMismatch))) := by
  unfold verifyParsed
  by_cases hc : c.codec = JSON_CODEC
  · rw [if_neg (by simp [hc])]
    rcases expectedHash_spec H arms ha c.hash.code bytes with ⟨alg, hcode, he⟩ | ⟨hno, he⟩ <;> rw [he]
    · by_cases hd : c.hash.digest = alg.hasher H bytes
      · exact .inr (.inr ⟨hc, alg, hcode, .inl ⟨hd, by simp [hd]⟩⟩)
      · exact .inr (.inr ⟨hc, alg, hcode, .inr ⟨hd, by simp [Ne.symm hd]⟩⟩)
    · exact .inr (.inl ⟨hc, hno, rfl⟩)
  · exact .inl ⟨hc, by simp [hc]⟩

theorem verifyParsed_ok_iff (H : Hashers) (arms : List (String × String))
    (ha : arms.filterMap Code.ofArm = [.Sha2_256, .Blake3_256]) (c : Cid) (bytes : Bytes) :
    verifyParsed H arms c bytes = .ok () ↔
      c.codec = JSON_CODEC ∧ ∃ alg : Code, c.hash.code = alg.toU64 ∧ c.hash.digest = alg.hasher H bytes := by
  rcases verifyParsed_spec H arms ha c bytes with ⟨hc, he⟩ | ⟨_, hno, he⟩ | ⟨hc, alg, hcode, ⟨hd, he⟩ | ⟨hd, he⟩⟩ <;> rw [he]
  · exact ⟨nofun, fun ⟨h, _⟩ => absurd h hc⟩
  · exact ⟨nofun, fun ⟨_, alg, h, _⟩ => absurd h.symm (hno alg)⟩
  · exact ⟨fun _ => ⟨hc, alg, hcode.symm, hd⟩, fun _ => rfl⟩
  · refine ⟨nofun, fun ⟨_, alg', h1, h2⟩ => ?_⟩
    cases code_toU64_inj alg' alg (h1.symm.trans hcode.symm)
    exact absurd h2 hd

theorem verifyParsed_mismatch (H : Hashers) (arms : List (String × String))
    (ha : arms.filterMap Code.ofArm = [.Sha2_256, .Blake3_256]) (c : Cid) (bytes : Bytes) (hc : c.codec = JSON_CODEC)
    (alg : Code) (hcode : alg.toU64 = c.hash.code) (hd : c.hash.digest ≠ alg.hasher H bytes) :
    verifyParsed H arms c bytes = .error .ValueMismatch := by
  rcases verifyParsed_spec H arms ha c bytes with ⟨hc', _⟩ | ⟨_, hno, _⟩ | ⟨_, alg', hcode', ⟨hd', _⟩ | ⟨_, he⟩⟩
  · exact absurd hc hc'
  · exact absurd hcode (hno alg)
  · cases code_toU64_inj alg' alg (hcode'.trans hcode.symm)
    exact absurd hd' hd
  · exact he

theorem readBytes_version (bytes : Bytes) (c : Cid) (h : Cid.readBytes bytes = .ok c) :
    (c.version = .V0 ∧ c.codec = DAG_PB) ∨ c.version = .V1 := by
  unfold Cid.readBytes at h
  split at h
  · cases h
  · split at h
    · cases h
    · split at h
      · split at h
        · cases h
        · split at h
          · cases h
          · unfold Cid.newV0 at h
            split at h
            · cases h
            · injection h with h; subst h; left; exact ⟨rfl, rfl⟩
      · split at h
        · cases h
        · cases h
        · split at h
          · cases h
          · unfold Cid.new Cid.newV1 at h
            injection h with h; subst h; right; rfl

theorem tryFromStr_version (s : Bytes) (c : Cid) (h : Cid.tryFromStr s = .ok c) :
    (c.version = .V0 ∧ c.codec = DAG_PB) ∨ c.version = .V1 := by
  have key : ∀ hash : Bytes,
      (if hash.length < 2 then (.error .InputTooShort : Except CidError Cid)
       else
        match (if Version.isV0Str hash then Base.Base58Btc.decode hash
               else (Aqua.Crypto.Multibase.decode hash).map (·.2)) with
        | none => .error .ParsingError
        | some bytes => Cid.readBytes bytes) = .ok c →
      (c.version = .V0 ∧ c.codec = DAG_PB) ∨ c.version = .V1 := by
    intro hash hh
    split at hh
    · cases hh
    · split at hh
      · cases hh
      · exact readBytes_version _ c hh
  unfold Cid.tryFromStr at h
  exact key _ h

/-- `verify_raw_value` accepts exactly the matching pairs: the text decodes (as `Cid::try_from` decodes
it) to a CIDv1 with the JSON codec whose multihash code is SHA2-256 or BLAKE3-256 and whose digest bytes
are, in full, that hash of the value bytes. -/
theorem C25_verify_raw_iff (H : Hashers) (cid raw : Bytes) :
    verifyRawValue H cid raw = .ok () ↔
      ∃ c, Cid.tryFromStr cid = .ok c ∧ c.version = .V1 ∧ c.codec = JSON_CODEC ∧
        ∃ alg : Code, c.hash.code = alg.toU64 ∧ c.hash.digest = alg.hasher H raw := by
  rw [verifyRawValue_eq]
  cases hp : Cid.tryFromStr cid with
  | error e => exact ⟨nofun, nofun⟩
  | ok c =>
    refine (verifyParsed_ok_iff H _ arms_raw c raw).trans ⟨fun ⟨hc, h⟩ => ⟨c, rfl, ?_, hc, h⟩, ?_⟩
    · -- a CIDv0 carries dag-pb, not the JSON codec
      rcases tryFromStr_version cid c hp with ⟨_, hd⟩ | hv
      · exact absurd (hd.symm.trans hc) (by decide)
      · exact hv
    · rintro ⟨_, ⟨⟩, _, h⟩; exact h

/-- `verify_value` is `verify_raw_value` on the serialised value, error variant included. -/
theorem C25_verify_value_eq_raw (H : Hashers) (cid : Bytes) (v : JVal) :
    verifyValue H cid v = verifyRawValue H cid (jsonBytes v) := by
  unfold verifyValue verifyRawValue
  rw [show Gen.Cid.verifyValueArms = Gen.Cid.verifyRawValueArms from rfl]

/-- `verify_value` accepts exactly the matching pairs (the value bytes are the value's compact JSON). -/
theorem C25_verify_iff (H : Hashers) (cid : Bytes) (v : JVal) :
    verifyValue H cid v = .ok () ↔
      ∃ c, Cid.tryFromStr cid = .ok c ∧ c.version = .V1 ∧ c.codec = JSON_CODEC ∧
        ∃ alg : Code, c.hash.code = alg.toU64 ∧ c.hash.digest = alg.hasher H (jsonBytes v) := by
  rw [C25_verify_value_eq_raw]
  exact C25_verify_raw_iff H cid (jsonBytes v)

/-- Which error for which rejection (both functions, `bytes` = the value's JSON bytes):
an undecodable text is `MalformedCid(e)` with the `cid` crate's error; a decoded id with another codec is
`UnsupportedCidCodec(codec)` — in particular every CIDv0 (`C25_cidv0_rejected`); then another hash code is
`UnsupportedHashCode(code)`; then a digest that differs in any way from the recomputed one is
`ValueMismatch`. -/
theorem C25_verify_errors (H : Hashers) (cid raw : Bytes) :
    (∃ e, Cid.tryFromStr cid = .error e ∧ verifyRawValue H cid raw = .error (.MalformedCid e)) ∨
    (∃ c, Cid.tryFromStr cid = .ok c ∧
      ((c.codec ≠ JSON_CODEC ∧ verifyRawValue H cid raw = .error (.UnsupportedCidCodec c.codec)) ∨
       (c.codec = JSON_CODEC ∧ (∀ alg : Code, alg.toU64 ≠ c.hash.code) ∧
          verifyRawValue H cid raw = .error (.UnsupportedHashCode c.hash.code)) ∨
       (c.codec = JSON_CODEC ∧ ∃ alg : Code, alg.toU64 = c.hash.code ∧
          ((c.hash.digest = alg.hasher H raw ∧ verifyRawValue H cid raw = .ok ()) ∨
           (c.hash.digest ≠ alg.hasher H raw ∧ verifyRawValue H cid raw = .error .ValueMismatch))))) := by
  rw [verifyRawValue_eq]
  cases hp : Cid.tryFromStr cid with
  | error e => left; exact ⟨e, rfl, rfl⟩
  | ok c => right; exact ⟨c, rfl, verifyParsed_spec H _ arms_raw c raw⟩

/-- Truncated digests are rejected: an id whose digest is not 32 bytes long never verifies (with a
supported code and the JSON codec the error is `ValueMismatch`). -/
theorem C25_truncated_digest_rejected (H : Hashers) (hw : HashersWf H) (cid raw : Bytes) (c : Cid)
    (hp : Cid.tryFromStr cid = .ok c) (hlen : c.hash.digest.length ≠ 32) :
    verifyRawValue H cid raw ≠ .ok () ∧
    (c.codec = JSON_CODEC → (∃ alg : Code, alg.toU64 = c.hash.code) →
      verifyRawValue H cid raw = .error .ValueMismatch) := by
  rw [verifyRawValue_parsed H hp]
  refine ⟨fun h => ?_, fun hc ⟨alg, hcode⟩ => ?_⟩
  · obtain ⟨_, alg, _, hd⟩ := (verifyParsed_ok_iff H _ arms_raw c raw).mp h
    exact hlen (by rw [hd, hasher_len hw])
  · exact verifyParsed_mismatch H _ arms_raw c raw hc alg hcode fun hd => hlen (by rw [hd, hasher_len hw])

/-- CIDv0 is never accepted: it carries the dag-pb codec, the verdict is `UnsupportedCidCodec(0x70)`. -/
theorem C25_cidv0_rejected (H : Hashers) (cid raw : Bytes) (c : Cid)
    (hp : Cid.tryFromStr cid = .ok c) (hv : c.version = .V0) :
    verifyRawValue H cid raw = .error (.UnsupportedCidCodec 0x70) := by
  rcases tryFromStr_version cid c hp with ⟨_, hd⟩ | hv1
  · rw [verifyRawValue_parsed H hp]
    unfold verifyParsed
    rw [hd]
    rfl
  · rw [hv] at hv1; cases hv1

/-- A different digest is rejected: if an id verifies for a value, no id with the same hash code but
other digest bytes (one flipped bit, a byte more or less) verifies for that value. -/
theorem C25_distinct_digest_rejected (H : Hashers) (cid cid' raw : Bytes) (c c' : Cid)
    (hp : Cid.tryFromStr cid = .ok c) (hp' : Cid.tryFromStr cid' = .ok c')
    (hok : verifyRawValue H cid raw = .ok ()) (hcode : c'.hash.code = c.hash.code)
    (hd : c'.hash.digest ≠ c.hash.digest) :
    verifyRawValue H cid' raw ≠ .ok () := by
  rw [verifyRawValue_parsed H hp] at hok
  rw [verifyRawValue_parsed H hp']
  intro h
  obtain ⟨_, alg₁, hc₁, hd₁⟩ := (verifyParsed_ok_iff H _ arms_raw c raw).mp hok
  obtain ⟨_, alg₂, hc₂, hd₂⟩ := (verifyParsed_ok_iff H _ arms_raw c' raw).mp h
  cases code_toU64_inj alg₁ alg₂ (by rw [← hc₁, ← hc₂, hcode])
  exact hd (hd₂.trans hd₁.symm)

/-- Text round trip: for every CIDv1 that fits the crate's type (`u64` codec and multihash code, digest of
at most 64 bytes) the text `cid` writes (`Display`: multibase `b`, base32 lower case, no padding) parses back
to that CID: `Cid::try_from(c.to_string()) = Ok(c)`. -/
theorem C25_text_roundtrip (c : Cid) (hv : c.version = .V1) (hcodec : c.codec < 2 ^ 64)
    (hcode : c.hash.code < 2 ^ 64) (hlen : c.hash.digest.length ≤ 64) :
    Cid.tryFromStr c.toStringV1 = .ok c :=
  tryFromStr_toStringV1' c hv hcodec hcode hlen

/-- Every produced id verifies: `raw_value_to_json_cid` does not panic (the digest fits) and its id is
accepted for the same bytes; `value_to_json_cid v` is accepted by `verify_value` for `v` and by
`verify_raw_value` for the serialised `v`. -/
theorem C25_verify_own (H : Hashers) (hw : HashersWf H) :
    (∀ raw : Bytes, ∃ cid, rawValueToJsonCid H raw = .ok cid ∧ verifyRawValue H cid raw = .ok ()) ∧
    (∀ v : JVal, ∃ cid, valueToJsonCid H v = .ok cid ∧ verifyValue H cid v = .ok () ∧
        verifyRawValue H cid (jsonBytes v) = .ok ()) := by
  have raw_case : ∀ raw : Bytes, ∃ cid, rawValueToJsonCid H raw = .ok cid ∧ verifyRawValue H cid raw = .ok () := by
    intro raw
    have hl : (H.blake3 raw).length ≤ 64 := by rw [hw.blake3_len]; decide
    refine ⟨_, rawValueToJsonCid_eq H raw hl, ?_⟩
    rw [C25_verify_raw_iff]
    exact ⟨_, tryFromStr_toStringV1 .Blake3_256 _ hl, rfl, rfl, .Blake3_256, rfl, rfl⟩
  refine ⟨raw_case, fun v => ?_⟩
  obtain ⟨cid, h1, h2⟩ := raw_case (jsonBytes v)
  exact ⟨cid, by rw [valueToJsonCid_eq_raw, h1], by rw [C25_verify_value_eq_raw]; exact h2, h2⟩

/-- The id of one value is rejected for a value with a different hash (in particular a different
serialisation can only be accepted on a BLAKE3 collision). -/
theorem C25_own_id_rejects_other (H : Hashers) (hw : HashersWf H) (v w : JVal) (cid : Bytes)
    (hcid : valueToJsonCid H v = .ok cid) (hne : H.blake3 (jsonBytes v) ≠ H.blake3 (jsonBytes w)) :
    verifyValue H cid w = .error .ValueMismatch := by
  have hl : (H.blake3 (jsonBytes v)).length ≤ 64 := by rw [hw.blake3_len]; decide
  rw [valueToJsonCid_eq_raw, rawValueToJsonCid_eq H _ hl] at hcid
  injection hcid with hcid
  subst hcid
  rw [C25_verify_value_eq_raw, verifyRawValue_parsed H (tryFromStr_toStringV1 .Blake3_256 _ hl)]
  exact verifyParsed_mismatch H _ arms_raw _ _ rfl .Blake3_256 rfl hne

-- two insertion orders (and a duplicate) with the same final map
example : ∀ k, finalMap [("b", .num 1), ("a", .num 2), ("b", .num 3)] k = finalMap [("a", .num 2), ("b", .num 3)] k := by
  intro k
  simp only [finalMap, List.reverse_cons, List.reverse_nil, List.nil_append, List.cons_append, lookup_cons', List.lookup_nil]
  by_cases h : k = "b" <;> simp [h]
example : JVal.mkObj [("b", .num 1), ("a", .num 2), ("b", .num 3)] = .obj [("a", .num 2), ("b", .num 3)] := by
  simp [JVal.mkObj, insertSorted, strLt]
example : [("b", JVal.num 1), ("a", JVal.num 2)].Perm [("a", .num 2), ("b", .num 1)] := List.Perm.swap _ _ _
example : ([("b", JVal.num 1), ("a", JVal.num 2)].map Prod.fst).Nodup := by decide
-- an id text that decodes to a JSON-codec CIDv1 (the crate's test vector for `json!(1)`, SHA2-256)
set_option maxRecDepth 100000 in
example : (Cid.tryFromStr (ascii "bagaaieranodle477gt6odhllqbhp6wr7k5d23jhkuixr2soadzjn3n4hlnfq")).toOption.map
    (fun c => (c.version, c.codec, c.hash.code, c.hash.digest.length)) = some (.V1, 0x200, 0x12, 32) := by decide +kernel
-- a CIDv0 text, and a truncated digest
set_option maxRecDepth 100000 in
example : (Cid.tryFromStr (ascii "QmdfTbBqBPQ7VNxZEYEj14VmRuZBkqFbiwReogJgS1zR1n")).toOption.map
    (fun c => (c.version, c.codec)) = some (.V0, 0x70) := by decide +kernel
set_option maxRecDepth 100000 in
example : (Cid.tryFromStr (Cid.newV1 JSON_CODEC ⟨0x12, List.replicate 20 7⟩).toStringV1).toOption.map
    (fun c => c.hash.digest.length) = some 20 := by decide +kernel
-- a CIDv1 within the bounds of `C25_text_roundtrip`
example : let c : Cid := ⟨.V1, 0x55, ⟨0xb220, List.replicate 64 9⟩⟩
    c.version = .V1 ∧ c.codec < 2 ^ 64 ∧ c.hash.code < 2 ^ 64 ∧ c.hash.digest.length ≤ 64 := by decide
-- an accepted pair and an id with one more digest byte for the same value (`C25_distinct_digest_rejected`,
-- `C25_truncated_digest_rejected`), with constant "hashers"
set_option maxRecDepth 100000 in
example : let H : Hashers := ⟨fun _ => List.replicate 32 0, fun _ => List.replicate 32 0⟩
    verifyRawValue H (Cid.newV1 JSON_CODEC ⟨0x1e, List.replicate 32 0⟩).toStringV1 [1, 2, 3] = .ok () ∧
    verifyRawValue H (Cid.newV1 JSON_CODEC ⟨0x1e, List.replicate 31 0⟩).toStringV1 [1, 2, 3] = .error .ValueMismatch ∧
    verifyRawValue H (Cid.newV1 JSON_CODEC ⟨0x13, List.replicate 32 0⟩).toStringV1 [1, 2, 3] = .error (.UnsupportedHashCode 0x13) ∧
    verifyRawValue H (Cid.newV1 0x55 ⟨0x1e, List.replicate 32 0⟩).toStringV1 [1, 2, 3] = .error (.UnsupportedCidCodec 0x55) := by
  decide +kernel
-- hashers with 32-byte digests exist
example : HashersWf ⟨fun _ => List.replicate 32 0, fun b => List.replicate 32 (UInt8.ofNat b.length)⟩ :=
  ⟨fun _ => by simp, fun _ => by simp⟩

end AquaProps.C25
