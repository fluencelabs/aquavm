import AquaProps.Lemmas.BeautifierTree
import AquaProps.Lemmas.OperandReader
/-!
# C28 — the beautifier faithfully renders the script structure

Model: `Aqua.Air.Beautifier` (replica of `crates/beautifier/src/{beautifier,virtual}.rs` and of the `Display`
impls it prints with). Independent reader of the output language and the script's own instruction tree:
`Aqua.Air.Unbeautify` (`unbeautify`, `skeleton`, `flat`). Operand reader: `Aqua.Air.OperandReader`.

All theorems quantify over every `Instr` (all instruction kinds, folds with and without `last`, hop-on
patterns on and off, every indent step > 0). The premises `WF` / `valueWF` / `lineOK` state what the lexer
guarantees about names and literals (no `"` inside a literal, names made of name characters, …); they are
decidable and monitored by the harness on every real AST (`wf`, `operands_not_wf`, `lines_ok` of the
driver op `beautify`).
-/
namespace AquaProps.C28
open Aqua.Air Aqua.Air.Beautifier Aqua.Air.Unbeautify Aqua.Air.OperandReader
open AquaProps.Lemmas.BeautifierText AquaProps.Lemmas.BeautifierTree AquaProps.Lemmas.OperandReader

/-! ## the source still says what the model replicates

Layout keywords, format strings, dispatch of `beautify_walker`, `Display` format strings and argument
order, re-read from /repo by `tools/gen_tables.py` on every check: a change of any of them breaks this
proof (and the model has to be revisited). -/

theorem C28_source_tables :
    Aqua.Gen.Beautifier.defaultIndentStep = 4 ∧
    Aqua.Gen.Beautifier.methodLiterals = [("fmt_indent", ["{:indent$}", ""]), ("beautify_ast", []), ("beautify_walker", ["error"]), ("beautify_call", ["{v} <- ", "{v} <- ", "call {} [{}]"]), ("beautify_simple", ["{instruction}"]), ("beautify_seq", []), ("beautify_par", ["par:", "|"]), ("beautify_xor", ["try:", "catch:"]), ("beautify_match", []), ("beautify_mismatch", []), ("beautify_fold_scalar", ["last:"]), ("beautify_fold_stream", ["last:"]), ("beautify_fold_stream_map", ["last:"]), ("beautify_new", [])] ∧
    Aqua.Gen.Beautifier.macroLiterals = [("multiline", []), ("compound", ["{}:"])] ∧
    Aqua.Gen.Beautifier.walkerDispatch = [("Call", "beautify_call"), ("Ap", "beautify_simple"), ("ApMap", "beautify_simple"), ("Canon", "beautify_simple"), ("CanonMap", "beautify_simple"), ("CanonStreamMapScalar", "beautify_simple"), ("Seq", "beautify_seq"), ("Par", "beautify_par"), ("Xor", "beautify_xor"), ("Match", "beautify_match"), ("MisMatch", "beautify_mismatch"), ("Fail", "beautify_simple"), ("FoldScalar", "beautify_fold_scalar"), ("FoldStream", "beautify_fold_stream"), ("FoldStreamMap", "beautify_fold_stream_map"), ("Never", "beautify_simple"), ("New", "beautify_new"), ("Next", "beautify_simple"), ("Null", "beautify_simple"), ("Error", "beautify_simple:error")] ∧
    Aqua.Gen.Beautifier.displayImpls = [("CallArgs", ["{}", ", "], ["0.iter"]), ("CallTriplet", ["{} ({}, {})"], ["0.peer_id", "0.service_id", "0.function_name"]), ("HopOn", ["hopon {}"], ["peer_id"]), ("Instruction", ["{call}", "{canon}", "{canon_map}", "{canon_stream_map_scalar}", "{ap}", "{ap_map}", "{seq}", "{par}", "{xor}", "{match_}", "{mismatch}", "{fail}", "{fold}", "{fold}", "{fold}", "{never}", "{next}", "{new}", "{null}", "error"], []), ("Call", ["{arg}", " ", "call {} [{}] {}"], ["args", "triplet", "output"]), ("Canon", ["canon {} {} {}"], ["peer_id", "stream", "canon_stream"]), ("CanonMap", ["canon {} {} {}"], ["peer_id", "stream_map", "canon_stream_map"]), ("CanonStreamMapScalar", ["canon {} {} {}"], ["peer_id", "stream_map", "scalar"]), ("Ap", ["ap {} {}"], ["argument", "result"]), ("ApMap", ["ap ({} {}) {}"], ["key", "value", "map"]), ("Fail", ["fail {scalar}", "fail {scalar}", "fail {ret_code} \"{error_message}\"", "fail {stream}", "fail %last_error%", "fail :error:"], []), ("FoldScalar", ["fold {} {}"], ["iterable", "iterator"]), ("FoldStream", ["fold {} {}"], ["iterable", "iterator"]), ("FoldStreamMap", ["fold {} {}"], ["iterable", "iterator"]), ("Seq", ["seq"], []), ("Par", ["par"], []), ("Null", ["null"], []), ("Xor", ["xor"], []), ("Match", ["match {} {}"], ["left_value", "right_value"]), ("MisMatch", ["mismatch {} {}"], ["left_value", "right_value"]), ("Never", ["never"], []), ("Next", ["next {}"], ["iterator"]), ("New", ["new {}"], ["argument"]), ("ApResult", ["{scalar}", "{stream}"], []), ("ImmutableValue", ["%init_peer_id%", "\"{literal}\"", "%timestamp%", "%ttl%", "{number}", "{bool}", "[]", "{variable}", "{variable}"], []), ("ResolvableToPeerIdVariable", ["%init_peer_id%", "\"{literal}\"", "{scalar}", "{scalar}", "{canon_stream}", "{canon_stream_map}"], []), ("ResolvableToStringVariable", ["\"{literal}\"", "{scalar}", "{scalar}", "{canon_stream}", "{canon_stream_map}"], []), ("CallOutputValue", ["{scalar}", "{stream}"], []), ("ApArgument", ["%init_peer_id%", "\"{str}\"", "%timestamp%", "%ttl%", "{number}", "{bool}", "[]", "{scalar}", "{scalar}", "{canon_stream}", "{canon_stream}", "{canon_stream_map}", "{canon_stream_map}"], []), ("StreamMapKeyClause", ["\"{str}\"", "{int}", "{scalar}", "{scalar}", "{canon_stream}"], []), ("Triplet", ["{} ({} {})"], ["peer_id", "service_id", "function_name"]), ("NewArgument", ["{scalar}", "{stream}", "{canon_stream}", "{stream_map}", "{canon_stream_map}"], []), ("Number", ["{number}", "{number}"], []), ("FoldScalarIterable", ["{scalar}", "{scalar}", "{canon_stream}", "{canon_stream_map}", "{canon_stream_map}", "[]"], []), ("Scalar", ["{}"], ["name"]), ("ScalarWithLambda", ["{}{}"], ["name", "lambda"]), ("Stream", ["{}"], ["name"]), ("CanonStream", ["{}"], ["name"]), ("CanonStreamWithLambda", ["{}{}"], ["name", "lambda"]), ("CanonStreamMap", ["{}"], ["name"]), ("CanonStreamMapWithLambda", ["{}{}"], ["name", "lambda"]), ("ImmutableVariable", ["{scalar}", "{canon_stream}", "{canon_stream_map}"], []), ("ImmutableVariableWithLambda", ["{scalar}", "{canon_stream}", "{canon_stream_map}"], []), ("StreamMap", ["{}"], ["name"]), ("LambdaAST", [".{functor}", ".$.{}", "."], []), ("ValueAccessor", ["[{idx}]", "{field_name}", "[{scalar_name}]", "a parser error occurred while parsing lambda expression"], []), ("Functor", ["length"], [])] ∧
    Aqua.Gen.Beautifier.displayHelpers = [("display_last_error", ["{LAST_ERROR}{lambda_ast}", "{LAST_ERROR}"]), ("display_error", ["{ERROR}{lens}", "{ERROR}"])] ∧
    Aqua.Gen.Beautifier.lexerConsts = [("INIT_PEER_ID", "%init_peer_id%"), ("LAST_ERROR", "%last_error%"), ("ERROR", ":error:"), ("TIMESTAMP", "%timestamp%"), ("TTL", "%ttl%"), ("TRUE_VALUE", "true"), ("FALSE_VALUE", "false")] ∧
    Aqua.Gen.Beautifier.canonShadows = [("InitPeerId", "false"), ("Literal", "false"), ("Scalar", "false"), ("ScalarWithLambda", "false"), ("CanonStreamMapWithLambda", "false"), ("CanonStreamWithLambda", "canon_with_lambda.name == canon_name")] :=
  ⟨rfl, rfl, rfl, rfl, rfl, rfl, rfl, rfl⟩

/-- the default configuration (`Beautifier::new`) has a positive indent step, patterns off -/
theorem C28_default_cfg : 0 < ({} : Cfg).indentStep ∧ ({} : Cfg).tryHopon = false := by decide

/-- Round trip through the independent reader (full: every instruction kind, `last` sections, hop-on
patterns on or off, any positive step): reading the beautified lines back — one instruction per line, children =
the following deeper lines, `par:`/`|`, `try:`/`catch:`, `head:`, `last:` — yields exactly the script's
instruction tree with sequences flattened: every instruction once, in order, compound instructions introduced by
their keyword line, `call` operands token by token. -/
theorem C28_roundtrip (cfg : Cfg) (hstep : 0 < cfg.indentStep) (ast : Instr) (hwf : WF ast = true) :
    unbeautify (beautifyAst cfg ast) = some (skeleton cfg.tryHopon ast) := by
  have h := (reads_walker cfg hstep ast 0 hwf).2 [] 1 [] [] rfl ((beautifyWalker cfg ast 0).length + 1) (by omega)
  simp only [List.append_nil] at h
  simp [unbeautify, beautifyAst, h]

/-- the same from the output *text* (what `Beautifier` writes: indent spaces, text, newline per line) -/
theorem C28_text_roundtrip (cfg : Cfg) (hstep : 0 < cfg.indentStep) (ast : Instr) (hwf : WF ast = true)
    (hlines : ∀ l ∈ beautifyAst cfg ast, lineOK l = true) :
    unbeautifyText (render (beautifyAst cfg ast)) = some (skeleton cfg.tryHopon ast) := by
  unfold unbeautifyText
  rw [linesOf_render _ hlines]
  exact C28_roundtrip cfg hstep ast hwf

/-- Indentation is nesting depth; order is script order (no premise): dropping the separator lines
(`|`, `catch:`, `last:`), the output is exactly the list of the script's non-`seq` instructions in pre-order
(`flat`: depth counts enclosing `par`/`xor`/`match`/`mismatch`/`fold`/`new`, not `seq`), each on its own line
indented by `depth × step`, the line being the instruction's own text (`ownText`). -/
theorem C28_indent_is_depth (cfg : Cfg) (ast : Instr) :
    (beautifyAst cfg ast).filter (fun l => !isSep l.text) =
      (flat cfg.tryHopon ast 0).map fun (x : Nat × Instr) => ⟨x.1 * cfg.indentStep, ownText cfg.tryHopon x.2⟩ := by
  have := filter_walker cfg ast 0
  rwa [Nat.zero_mul] at this

/-- every instruction is listed exactly once: as many non-separator lines as instructions -/
theorem C28_lines_count (cfg : Cfg) (ast : Instr) :
    ((beautifyAst cfg ast).filter (fun l => !isSep l.text)).length = (flat cfg.tryHopon ast 0).length := by
  rw [C28_indent_is_depth, List.length_map]

/-- compound instructions are introduced by their keyword, operands printed by `Display` -/
theorem C28_head_format (hop : Bool) :
    (∀ l r, ownText hop (.par l r) = "par:".toList) ∧
    (∀ l r, ownText hop (.xor l r) = "try:".toList) ∧
    (∀ a b i, ownText hop (.match_ a b i) = "match ".toList ++ valueText a ++ ' ' :: valueText b ++ [':']) ∧
    (∀ a b i, ownText hop (.mismatch a b i) = "mismatch ".toList ++ valueText a ++ ' ' :: valueText b ++ [':']) ∧
    (∀ it i b l, ownText hop (.foldScalar it i b l) = "fold ".toList ++ valueText it ++ ' ' :: i.toList ++ [':']) ∧
    (∀ s sp i b l sl, ownText hop (.foldStream s sp i b l sl) = "fold ".toList ++ s.toList ++ ' ' :: i.toList ++ [':']) ∧
    (∀ m mp i b l sl, ownText hop (.foldMap m mp i b l sl) = "fold ".toList ++ m.toList ++ ' ' :: i.toList ++ [':']) ∧
    (∀ a b sl sr, hopOnPeer (.new a b sl sr) = none → ownText hop (.new a b sl sr) = "new ".toList ++ a.name.toList ++ [':']) :=
  ⟨fun _ _ => rfl, fun _ _ => rfl, fun _ _ _ => rfl, fun _ _ _ => rfl, fun _ _ _ _ => rfl, fun _ _ _ _ _ _ => rfl,
   fun _ _ _ _ _ _ => rfl, fun a b sl sr h => by
     unfold ownText
     cases hop <;> simp only [h, if_true, if_false, Bool.false_eq_true] <;> rfl⟩

/-- Operands are printed as in the script: reading the printed text of an operand back with the token rules
of the AIR lexer gives the operand itself — for every operand kind (constants, literals, integers, floats,
`%last_error%` / `:error:` with lens, scalars / canon streams / canon stream maps with or without lens, every
accessor kind). -/
theorem C28_operands (v : Value) (hwf : valueWF v = true) : parseValue (valueText v) = some v := by
  cases v with
  | initPeerId | timestamp | ttl | emptyArray => decide +kernel
  | boolean b => cases b <;> decide +kernel
  | lastError l => exact parseValue_lastError l hwf
  | error l => exact parseValue_error l hwf
  | literal s =>
    simp only [valueWF, Bool.not_eq_true'] at hwf
    exact parseValue_literal s hwf
  | number n => exact parseValue_number n
  | float r => exact parseValue_float r hwf
  | scalar n => have := parseValue_scalar n none hwf rfl; rwa [optLambdaText, List.append_nil] at this
  | canon n => have := parseValue_canon n none hwf rfl; rwa [optLambdaText, List.append_nil] at this
  | canonMap n => have := parseValue_canonMap n none hwf rfl; rwa [optLambdaText, List.append_nil] at this
  | scalarWL n l =>
    simp only [valueWF, Bool.and_eq_true] at hwf
    exact parseValue_scalar n (some l) hwf.1 hwf.2
  | canonWL n l =>
    simp only [valueWF, Bool.and_eq_true] at hwf
    exact parseValue_canon n (some l) hwf.1 hwf.2
  | canonMapWL n l =>
    simp only [valueWF, Bool.and_eq_true] at hwf
    exact parseValue_canonMap n (some l) hwf.1 hwf.2

/-- hence no two different operands are printed alike -/
theorem C28_operands_injective (v w : Value) (hv : valueWF v = true) (hw : valueWF w = true)
    (h : valueText v = valueText w) : v = w := by
  have h1 := C28_operands v hv
  rw [h, C28_operands w hw] at h1
  exact (Option.some.inj h1).symm

/-- `C28_full`: the statements above without the lexer premises do not hold for the model, and not for the
code either — see the known findings (a float literal with integral value prints like an integer, so
`valueText (.float "1") = valueText (.number 1)`; a literal with a line break spans two lines).
What is not proved: `f64::fmt` (the decimal text of a float is an input of the model). -/
def C28_full : Prop :=
  ∀ (cfg : Cfg) (ast : Instr), 0 < cfg.indentStep →
    unbeautifyText (render (beautifyAst cfg ast)) = some (skeleton cfg.tryHopon ast)

/-- a script with every layout feature: seq chain, par, xor, match, fold with `last`, hop-on idiom, call with output -/
def exAst : Instr :=
  .seq (.call (.literal "peer 1") (.literal "svc, x") (.scalarWL "f" (.path [.fieldByName "a", .arrayAccess 0])) [.number (-5), .float "1.5", .emptyArray, .lastError (some .functorLength)] (.stream "$out" 7))
    (.seq (.par (.xor (.ap (.boolean true) (.scalar "x")) (.fail .lastError)) (.match_ (.scalar "x") (.literal "y") .null))
      (.seq (.foldScalar (.canon "#c") "i" (.seq (.canon .initPeerId "$s" 3 "#c2") (.next "i")) (some .never))
        (.new (.stream "$e") (.new (.canon "#e") (.canon (.literal "relay") "$e" 9 "#e") 1 2) 0 3)))

example : WF exAst = true := by decide +kernel
example : ∀ v ∈ operands exAst, valueWF v = true := by decide +kernel
example : unbeautify (beautifyAst {} exAst) = some (skeleton false exAst) := C28_roundtrip {} (by decide) exAst (by decide +kernel)
example : unbeautify (beautifyAst { indentStep := 2, tryHopon := true } exAst) = some (skeleton true exAst) :=
  C28_roundtrip _ (by decide) exAst (by decide +kernel)
example : ∀ l ∈ beautifyAst {} exAst, lineOK l = true := by decide +kernel
example : (beautifyAst {} exAst).length = 17 ∧ (flat false exAst 0).length = 14 ∧ (flat true exAst 0).length = 12 := by decide +kernel
example : parseValue (valueText (.canonMapWL "#%m" (.path [.fieldByScalar "k", .arrayAccess 12]))) =
    some (.canonMapWL "#%m" (.path [.fieldByScalar "k", .arrayAccess 12])) := C28_operands _ (by decide)

end AquaProps.C28
