import AquaProps.Lemmas.ExecRel
import AquaProps.Lemmas.TraceFrame
import Aqua.Exec.Run
/-!
# C03 — every produced data is accepted and verifiable by any other peer

What a receiving peer checks (model: `collect_peers_cids_from_trace` + `DataVerifier::verify`): for
each peer, the content ids of the call results attributed to it in the trace are exactly what its
signature covers.  The producing side must therefore register for signing exactly the ids of the
own results it puts into the result trace.  That is the whole-run theorem below
(`C03_own_results_signed`), proved for EVERY script, fuel, previous/current data and call-result map by
the generic executor induction `exec_rel` with the relation `Signed`; plus the store-side lemmas
(`C03_tracked_*`): every item put into the CID stores is keyed by the hash of its content and the
aggregate's references are present.

Before the repair in /repo (`fix: register the CID of the Failed state …`) the primitive
`failedService` for a non-JSON service result did NOT satisfy `Signed` (the state was pushed without
registration) — the proof obligation that breaks is `signed_prims.failedService`.
-/
namespace AquaProps.C03
open Aqua Aqua.Exec Aqua.Air Aqua.Data Aqua.Trace Aqua.Json AquaProps

/-- content ids a trace entry contributes to its owner's signature (`CallResult::get_cid` for executed
scalar / stream values and failed calls; executed canon results; requests and unused values carry none) -/
def entryCids : ExecutedState → List Cid
  | .call cr => (match cr.getCid with | some c => [c] | none => [])
  | .canon (.executed c) => [c]
  | _ => []

def callCids : Trace → List Cid
  | [] => []
  | e :: rest => entryCids e ++ callCids rest

theorem callCids_append (a b : Trace) : callCids (a ++ b) = callCids a ++ callCids b := by
  induction a with
  | nil => rfl
  | cons x xs ih => simp [callCids, ih, List.append_assoc]

theorem callCids_set (t : Trace) (i : Nat) (old new : ExecutedState) (h : t[i]? = some old) (he : entryCids new = entryCids old) :
    callCids (t.set i new) = callCids t := by
  induction t generalizing i with
  | nil => rfl
  | cons x xs ih =>
    cases i with
    | zero =>
      simp only [List.getElem?_cons_zero, Option.some.injEq] at h
      subst h
      simp [List.set, callCids, he]
    | succ j =>
      simp only [List.getElem?_cons_succ] at h
      simp [List.set, callCids, ih j h]

theorem entryCids_neutral {st : ExecutedState} (h : Neutral st) : entryCids st = [] := by
  cases st <;> simp [Neutral] at h <;> rfl

/-- every reserved position (open par / fold) holds a neutral entry (state-inserter invariant) -/
def InsOK (th : TraceHandler) : Prop :=
  ∀ p ∈ inserters th, ∃ st, th.keeper.resultTrace[p]? = some st ∧ Neutral st

def resultCids (c : Ctx) : List Cid := callCids c.th.keeper.resultTrace

/-- pushed results, each tagged with the peer of the call's resolved triplet -/
def ownOf (me : String) (ds : List (String × Cid)) : List Cid := (ds.filter (fun d => d.1 == me)).map (·.2)

theorem ownOf_append (me : String) (a b : List (String × Cid)) : ownOf me (a ++ b) = ownOf me a ++ ownOf me b := by
  simp [ownOf, List.filter_append]

structure Signed (c c' : Ctx) : Prop where
  me : c'.currentPeerId = c.currentPeerId
  wf : InsOK c.th → InsOK c'.th
  reg : InsOK c.th → ∃ ds : List (String × Cid),
    resultCids c' = resultCids c ++ ds.map (·.2) ∧ c'.peerCids = c.peerCids ++ ownOf c.currentPeerId ds

theorem signed_trans {a b c : Ctx} (h1 : Signed a b) (h2 : Signed b c) : Signed a c := by
  refine ⟨h2.me.trans h1.me, fun h => h2.wf (h1.wf h), fun h => ?_⟩
  obtain ⟨d1, r1, p1⟩ := h1.reg h
  obtain ⟨d2, r2, p2⟩ := h2.reg (h1.wf h)
  refine ⟨d1 ++ d2, ?_, ?_⟩
  · rw [r2, r1]; simp [List.append_assoc]
  · rw [p2, p1, h1.me, ownOf_append]; simp [List.append_assoc]

/-- a change of the trace handler that pushes no content entry -/
def SameCids (h h' : TraceHandler) : Prop :=
  InsOK h → InsOK h' ∧ callCids h'.keeper.resultTrace = callCids h.keeper.resultTrace

theorem SameCids.refl (h : TraceHandler) : SameCids h h := fun hw => ⟨hw, rfl⟩

theorem SameCids.trans {a b c : TraceHandler} (h1 : SameCids a b) (h2 : SameCids b c) : SameCids a c :=
  fun hw => ⟨(h2 (h1 hw).1).1, (h2 (h1 hw).1).2.trans (h1 hw).2⟩

theorem signed_of_sameCids {c c' : Ctx} (hme : c'.currentPeerId = c.currentPeerId) (hp : c'.peerCids = c.peerCids)
    (hth : SameCids c.th c'.th) : Signed c c' :=
  ⟨hme, fun hw => (hth hw).1, fun hw => ⟨[], by simp [resultCids, (hth hw).2], by simp [ownOf, hp]⟩⟩

theorem signed_of_same {c c' : Ctx} (hme : c'.currentPeerId = c.currentPeerId) (hth : c'.th = c.th)
    (hp : c'.peerCids = c.peerCids) : Signed c c' :=
  signed_of_sameCids hme hp (hth ▸ .refl c.th)

theorem signed_refl (c : Ctx) : Signed c c := signed_of_same rfl rfl rfl

theorem signed_streamUpd {c c' : Ctx} (h : SameButStreams c c') : Signed c c' := signed_of_same h.me h.th h.peerCids

theorem sameCids_of_step {th th' : TraceHandler} (hs : TraceStep th th') : SameCids th th' := by
  intro hw
  cases hs with
  | same ht hi =>
    refine ⟨fun p hp => ?_, by rw [ht]⟩
    rw [ht]; exact hw p (hi p hp)
  | reserve ht hi =>
    refine ⟨fun p hp => ?_, by rw [ht, callCids_append]; simp [callCids, entryCids]⟩
    rw [ht]
    rcases hi p hp with h1 | h1
    · obtain ⟨st, hst, hn⟩ := hw p h1
      exact ⟨st, by rw [List.getElem?_append_left (lt_of_getElem?_eq_some hst)]; exact hst, hn⟩
    · exact ⟨.par 0 0, by rw [h1]; simp, trivial⟩
  | fill q st hq hn ht hi =>
    obtain ⟨old, hold, hno⟩ := hw q hq
    refine ⟨fun p hp => ?_, ?_⟩
    · rw [ht]
      obtain ⟨st', hst', hn'⟩ := hw p (hi p hp)
      by_cases hpq : q = p
      · subst hpq
        exact ⟨st, by simp [lt_of_getElem?_eq_some hold], hn⟩
      · exact ⟨st', by rw [List.getElem?_set_ne hpq]; exact hst', hn'⟩
    · rw [ht]
      exact callCids_set _ _ old st hold (by rw [entryCids_neutral hn, entryCids_neutral hno])

theorem signed_of_step {c : Ctx} {th' : TraceHandler} (hs : TraceStep c.th th') : Signed c { c with th := th' } :=
  signed_of_sameCids rfl rfl (sameCids_of_step hs)

theorem insOK_push {th : TraceHandler} (s : ExecutedState) (h : InsOK th) : InsOK (th.pushState s) := by
  intro p hp
  obtain ⟨st, hst, hn⟩ := h p hp
  exact ⟨st, by show (th.keeper.resultTrace ++ [s])[p]? = _; rw [List.getElem?_append_left (lt_of_getElem?_eq_some hst)]; exact hst, hn⟩

theorem signed_pushEntry {c c' : Ctx} (e : ExecutedState) (tag : String) (hme : c'.currentPeerId = c.currentPeerId)
    (hth : c'.th = c.th.pushState e)
    (hreg : c'.peerCids = c.peerCids ++ ownOf c.currentPeerId ((entryCids e).map fun x => (tag, x))) :
    Signed c c' := by
  refine ⟨hme, fun h => by rw [hth]; exact insOK_push _ h, fun _ => ?_⟩
  refine ⟨(entryCids e).map fun x => (tag, x), ?_, hreg⟩
  simp only [resultCids, hth]
  show callCids (c.th.keeper.resultTrace ++ [e]) = _
  rw [callCids_append]
  simp [callCids, List.map_map, Function.comp_def]

theorem signed_pushInert {c c' : Ctx} (e : ExecutedState) (he : entryCids e = []) (hme : c'.currentPeerId = c.currentPeerId)
    (hth : c'.th = c.th.pushState e) (hp : c'.peerCids = c.peerCids) : Signed c c' :=
  signed_pushEntry e "" hme hth (by simp [he, ownOf, hp])

theorem ownOf_singleton (me p cid : String) : ownOf me [(p, cid)] = if p == me then [cid] else [] := by
  unfold ownOf; split <;> simp [*]

theorem signed_record_push (c c1 : Ctx) (p cid : String) (cr : CallResult) (hcr : cr.getCid = some cid)
    (hme : c1.currentPeerId = c.currentPeerId) (hth : c1.th = c.th) (hpc : c1.peerCids = c.peerCids) :
    Signed c { (c1.recordCallCid p cid) with th := (c1.recordCallCid p cid).th.meetCallEnd cr } := by
  rw [recordCallCid_eq]
  exact signed_pushEntry (.call cr) p hme (by simp [hth, TraceHandler.meetCallEnd]) (by simp [entryCids, hcr, hpc, hme, ownOf_singleton])

theorem sameCids_set {h : TraceHandler} {pos : Nat} {old new : ExecutedState} (hold : h.keeper.resultTrace[pos]? = some old)
    (hnn : ¬ Neutral old) (he : entryCids new = entryCids old) :
    SameCids h { h with keeper := { h.keeper with resultTrace := setAt h.keeper.resultTrace pos new } } := by
  refine fun hw => ⟨fun p hp => ?_, callCids_set _ _ old new hold he⟩
  obtain ⟨st, hst, hn⟩ := hw p hp
  have hne : pos ≠ p := by
    intro heq; subst heq
    rw [hold] at hst; cases hst; exact hnn hn
  exact ⟨st, by show (List.set _ pos new)[p]? = _; rw [List.getElem?_set_ne hne]; exact hst, hn⟩

theorem sameCids_updateGeneration {h h' : TraceHandler} {pos g : Nat} (hu : h.updateGeneration pos g = .ok h') : SameCids h h' := by
  unfold TraceHandler.updateGeneration at hu
  split at hu
  · cases hu
  · rename_i gs hold
    cases hu
    exact sameCids_set hold (by simp [Neutral]) rfl
  · rename_i cid g0 hold
    cases hu
    exact sameCids_set hold (by simp [Neutral]) rfl
  · cases hu

theorem sameCids_inner (g : Nat) : ∀ (vs : List ValueAggregate) (th th' : TraceHandler),
    Stream.updateGenerations.go.inner g vs th = .ok th' → SameCids th th'
  | [], th, th', h => by cases h; exact SameCids.refl _
  | v :: more, th, th', h => by
    unfold Stream.updateGenerations.go.inner at h
    split at h
    · exact SameCids.trans (sameCids_updateGeneration ‹_›) (sameCids_inner g more _ th' h)
    · cases h
    · cases h

theorem sameCids_go : ∀ (slices : List (List ValueAggregate)) (g : Nat) (th th' : TraceHandler),
    Stream.updateGenerations.go slices g th = .ok th' → SameCids th th'
  | [], g, th, th', h => by cases h; exact SameCids.refl _
  | vs :: rest, g, th, th', h => by
    unfold Stream.updateGenerations.go at h
    split at h
    · exact SameCids.trans (sameCids_inner g vs th _ ‹_›) (sameCids_go rest (g + 1) _ th' h)
    · cases h
    · cases h

theorem sameCids_compactify {s s' : Stream} {th th' : TraceHandler} (h : s.compactify th = .ok (s', th')) : SameCids th th' := by
  unfold Stream.compactify at h
  simp only at h
  obtain ⟨t1, h1, h⟩ := Res.bind_eq_ok.mp h
  obtain ⟨t2, h2, h⟩ := Res.bind_eq_ok.mp h
  obtain ⟨t3, h3, h⟩ := Res.bind_eq_ok.mp h
  cases h
  exact SameCids.trans (sameCids_go _ _ _ _ h1) (SameCids.trans (sameCids_go _ _ _ _ h2) (sameCids_go _ _ _ _ h3))

theorem _root_.AquaProps.FoldOp.traceStep {th th' : TraceHandler} : FoldOp th th' → TraceStep th th'
  | .foldStart _ h => step_meetFoldStart h
  | .iterationStart _ _ h => step_meetIterationStart h
  | .iterationEnd _ h => step_meetIterationEnd h
  | .backIterator _ h => step_meetBackIterator h
  | .generationEnd _ h => step_meetGenerationEnd h
  | .foldEnd _ h => step_meetFoldEnd h

theorem signed_prims : ExecPrims Signed where
  pre := ⟨signed_refl, signed_trans⟩
  ctl := fun _ _ h => signed_streamUpd h.sameButStreams
  thCallStart := fun _ _ _ h => signed_of_step (step_meetCallStart h)
  thParStart := fun _ _ h => signed_of_step (step_meetParStart h)
  thParEnd := fun _ _ _ h => signed_of_step (step_meetParSubgraphEnd h)
  pushRequest := fun _ s => signed_pushInert (.call (.requestSentBy s)) rfl rfl rfl rfl
  failedService := fun _ _ _ _ c => signed_record_push c _ _ _ _ rfl rfl rfl rfl
  serviceResult := by
    intro env result t ah out c c' h
    obtain ⟨cid, rfl⟩ | ⟨cid, cs, c0, cr, _, hs, hcr, rfl⟩ := updServiceResult_eq_ok h
    · exact signed_pushInert (.call (.executed (.unused cid))) rfl rfl rfl rfl
    · exact signed_record_push c c0 _ _ _ hcr hs.me hs.th hs.peerCids
  prevFailed := fun _ _ c => signed_record_push c _ _ _ _ rfl rfl rfl rfl
  dropResult := fun _ _ => signed_of_same rfl rfl rfl
  prevExecutedBind := fun _ _ _ _ _ _ _ _ _ h => signed_streamUpd (sameButStreams_populateFromData h)
  prevExecuted := by
    intro t value c
    cases value with
    | scalar cid | stream cid g => exact signed_record_push c c _ _ _ rfl rfl rfl rfl
    | unused cid => exact signed_pushInert (.call (.executed (.unused cid))) rfl rfl rfl rfl
  issue := by
    intro t args c c' _ h
    obtain ⟨vs, tss, _, rfl⟩ := issueRequest_eq_ok h
    exact signed_pushInert (.call (.requestSentBy _)) rfl rfl rfl rfl
  remote := fun _ c _ => signed_pushInert (.call (.requestSentBy (.peerId c.currentPeerId))) rfl rfl rfl rfl
  streamUpd := fun _ _ => signed_streamUpd
  thApStart := fun _ _ _ h => signed_of_step (step_meetApStart h)
  pushAp := fun _ => signed_pushInert (.ap [generationStub]) rfl rfl rfl rfl
  thCanonStart := fun _ _ _ h => signed_of_step (step_meetCanonStart h)
  canonTrack := fun _ _ _ _ _ _ => signed_of_same rfl rfl rfl
  canonFinish := by
    intro name cs cid reg c c' h
    obtain ⟨sc, _, rfl⟩ := updCanonFinish_eq_ok h
    rw [recordCanonCid_eq]
    exact signed_pushEntry (.canon (.executed cid)) reg rfl rfl (by simp [entryCids, ownOf_singleton])
  canonPushRequest := fun _ sender => signed_pushInert (.canon (.requestSentBy sender)) rfl rfl rfl rfl
  canonRemote := fun c _ _ => signed_pushInert (.canon (.requestSentBy c.currentPeerId)) rfl rfl rfl rfl
  foldCount := fun _ => signed_of_same rfl rfl rfl
  thFoldOp := fun _ _ h => signed_of_step h.traceStep
  scopeEnd := by
    intro name c c' h
    obtain ⟨_, _, _, _, _, _, hc, rfl⟩ := streamScopeEnd_eq_ok h
    exact signed_of_sameCids rfl rfl (sameCids_compactify hc)

abbrev finalCtx (env : Env) (fuel : Nat) (script : Instr) (prev cur : DataIn) (p : RunParams)
    (results : List (String × CallServiceResult)) : Ctx := (runExec env fuel script prev cur p results).2

/-- The current peer signs exactly its own results.  For every run: the call results in the produced
trace are the pushed results `ds` in order, each tagged with the peer its call is addressed to, and the
list of ids registered for the current peer's signature is exactly the sub-list tagged with the current
peer — no own result is left unsigned and nothing foreign is signed.  Holds on every exit of the
execution stage (success, catchable or uncatchable error). -/
theorem C03_own_results_signed (env : Env) (fuel : Nat) (script : Instr) (prev cur : DataIn) (p : RunParams)
    (results : List (String × CallServiceResult)) :
    ∃ ds : List (String × Cid),
      callCids (finalCtx env fuel script prev cur p results).th.keeper.resultTrace = ds.map (·.2) ∧
      (finalCtx env fuel script prev cur p results).peerCids = ownOf p.currentPeerId ds := by
  -- the run starts with an empty result trace, nothing registered and no open par or fold
  exact (exec_rel signed_prims env fuel script (initCtx prev cur p results)).reg fun f hf => by cases hf

/-- the same for any starting context with a well-formed par stack (used between instructions) -/
theorem C03_exec_signed (env : Env) (fuel : Nat) (script : Instr) (c : Ctx) : Signed c (exec env fuel script c).2 :=
  exec_rel signed_prims env fuel script c

/-- the state-inserter invariant is kept by every run: open pars always point at `par` entries -/
theorem C03_par_inserters_valid (env : Env) (fuel : Nat) (script : Instr) (c : Ctx) (h : InsOK c.th) :
    InsOK (exec env fuel script c).2.th := (exec_rel signed_prims env fuel script c).wf h

/-- `track_value`: the value is stored under the hash of its serialisation -/
theorem C03_tracked_value_keyed (env : Env) (s : CidState) (v : JVal) :
    (trackValue env s v).1 = env.hash v.render ∧
    lookup (trackValue env s v).2.values (trackValue env s v).1 = some v.render := by
  unfold trackValue
  exact ⟨rfl, lookup_upsert_self _ _ _⟩

/-- `track_service_result`: the aggregate is stored under the hash of its serialisation and the value
and tetraplet it references were stored in the same step -/
theorem C03_tracked_service_result_closed (env : Env) (s : CidState) (v : JVal) (t : Tetraplet) (ah : String) :
    ∃ agg, lookup (trackServiceResult env s v t ah).2.serviceResults (trackServiceResult env s v t ah).1 = some agg ∧
      (trackServiceResult env s v t ah).1 = env.hash agg.json ∧
      agg.valueCid = env.hash v.render ∧ agg.tetrapletCid = env.hash t.json ∧ agg.argumentHash = ah := by
  unfold trackServiceResult trackValue trackTetraplet
  exact ⟨_, lookup_upsert_self _ _ _, rfl, rfl, rfl, rfl⟩

section Examples
def env0 : Env := { hash := fun _ => "h", parseJson := fun _ => some .null }
def tA : Tetraplet := { peerPk := "A", serviceId := "s", functionName := "f" }
def script0 : Instr := .call (.literal "A") (.literal "s") (.literal "f") [] (.scalar "x")
/-- previous data in which the call is already executed (value, tetraplet and aggregate stored) -/
def cid0 : CidState := { values := [("h", "null")], tetraplets := [("h", tA)], serviceResults := [("h", ⟨"h", "h", "h"⟩)] }
def prev0 : DataIn := { trace := [.call (.executed (.scalar "h"))], lcid := 1, cid := cid0 }
def params0 : RunParams := { initPeerId := "A", currentPeerId := "A", timestamp := 0, ttl := 0 }
def ctx0 : Ctx := initCtx prev0 {} params0 []
-- re-emitting the own result found in the data registers exactly its id for signing, and the relation
-- `Signed` then speaks about a non-empty list of pushed results
example : (updPrevExecuted tA (.scalar "h") ctx0).peerCids = ["h"] ∧
    callCids (updPrevExecuted tA (.scalar "h") ctx0).th.keeper.resultTrace = ["h"] := by decide
-- a foreign result is re-emitted but NOT registered
example : (updPrevExecuted { tA with peerPk := "B" } (.scalar "h") ctx0).peerCids = [] ∧
    callCids (updPrevExecuted { tA with peerPk := "B" } (.scalar "h") ctx0).th.keeper.resultTrace = ["h"] := by decide
end Examples

/-- The full reading of the property (every produced data decodes, carries a supported version, its CID
store verifies, every peer's signature verifies, another peer accepts it) additionally needs: the
farewell step (serialisation, `sign_result`), the union of previous and current stores/signatures being
consistent (C15), other peers' states being re-emitted completely (C09) and stream generations.
Those parts are covered by the oracle (decode + CID-store
verification + signature verification + a real second-peer run on every produced data of every
generated history) and by the lock-step correspondence (projection: code, stores, trace, registered ids). -/
def C03_full_note : Unit := ()

end AquaProps.C03
