import AquaProps.C05
import AquaProps.C06Net
import AquaProps.C19Net
/-!
# C05 along whole histories (`Aqua.Net`)

`C05.lean` proves, for one call step with arbitrary inputs, that an executed, failed or own-pending call is
not requested again, and for one run that the requests are appended one by one under fresh consecutive ids.
Here the bookkeeping of honest hosts (`Aqua.Net.absorb`) is added, for every state reachable in the network
model (any script, services and schedule of deliveries, duplicated deliveries and late or batched answers).

What stays open at this level is the alignment premise named in `C05.lean` (the state the trace handler hands
to an instruction instance in a later run is the state recorded for that instance earlier).
-/
namespace AquaProps.C05
open Aqua Aqua.Exec Aqua.Air Aqua.Net AquaProps AquaProps.NetLift

/-- everything the runs of `q` have handed to `q`'s host so far, in issue order -/
def issued (st : NetSt) (q : String) : List (Nat × CallRequest) := (runsOf st q).flatMap Run.requests

theorem issued_absorb_self (st : NetSt) (r : Run) : issued (absorb st r) r.peer = issued st r.peer ++ r.requests := by
  unfold issued
  rw [runsOf_absorb_self, List.flatMap_append, List.flatMap_singleton]

theorem issued_absorb_other (st : NetSt) (r : Run) (q : String) (h : r.peer ≠ q) : issued (absorb st r) q = issued st q := by
  unfold issued
  rw [runsOf_absorb_other _ _ _ h]

/-- Nothing is pending that no run asked for: the host's pending list is a sub-sequence of the issued requests. -/
theorem C05_network_pending_issued (env : Env) (svc : Services) (P : Particle) (st : NetSt)
    (h : Reachable env svc P st) (q : String) : List.Sublist (peerSt st q).pending (issued st q) := by
  revert q
  refine reachable_induction (env := env) (svc := svc) (P := P)
    (fun st => ∀ q, List.Sublist (peerSt st q).pending (issued st q)) ?_ ?_ ?_ h
  · intro q; exact List.Sublist.refl _
  · intro st w _ hq q; exact hq q
  · intro st r hq q
    by_cases hpq : r.peer = q
    · subst hpq
      rw [peerSt_absorb_self, issued_absorb_self]
      exact List.Sublist.append (List.Sublist.trans List.filter_sublist (hq r.peer)) (List.Sublist.refl _)
    · rw [peerSt_absorb_other _ _ _ (Ne.symm hpq), issued_absorb_other _ _ _ hpq]
      exact hq q

/-- No request is pending twice: the ids of the requests a host still has to answer are strictly increasing. -/
theorem C05_network_pending_ids_increasing (env : Env) (svc : Services) (P : Particle) (st : NetSt)
    (h : Reachable env svc P st) (q : String) : ((peerSt st q).pending.map (·.1)).Pairwise (· < ·) := by
  have hsub := (C05_network_pending_issued env svc P st h q).map (·.1)
  have hinc := C06.C06_network_ids_fresh env svc P st h q
  have : (issued st q).map (·.1) = (runsOf st q).flatMap fun r => r.requests.map (·.1) := by
    unfold issued; rw [List.map_flatMap]
  rw [this] at hsub
  exact hinc.sublist hsub

/-- Every pending request names a call addressed to the peer whose host holds it. -/
theorem C05_network_pending_local (env : Env) (svc : Services) (P : Particle) (st : NetSt)
    (h : Reachable env svc P st) (q : String) : ∀ x ∈ (peerSt st q).pending, x.2.forPeer = q := by
  intro x hx
  have hi := (C05_network_pending_issued env svc P st h q).subset hx
  unfold issued at hi
  obtain ⟨r, hr, hxr⟩ := List.mem_flatMap.mp hi
  have hrq : r.peer = q := by simpa using (List.mem_filter.mp hr).2
  rw [← hrq]
  exact C19.C19_network_requests_local env svc P st h r (List.mem_filter.mp hr).1 x hxr

/-- A result is handed back at most once per issued id: after a run of `q` that was given results, a request
that is still (or again) pending at `q` either was not answered by that batch, or was issued by this very run. -/
theorem C05_network_answered_not_pending (st : NetSt) (r : Run) :
    ∀ x ∈ (peerSt (absorb st r) r.peer).pending,
      (r.results.any fun kv => kv.1 == toString x.1) = false ∨ x ∈ r.requests := by
  intro x hx
  rw [peerSt_absorb_self] at hx
  rcases List.mem_append.mp hx with hx | hx
  · exact .inl (Bool.not_eq_true' _ ▸ (List.mem_filter.mp hx).2)
  · exact .inr hx

/-- the results of an `answer` event are exactly answers to requests that were pending (the model's hosts never
invent a result) -/
theorem C05_network_answers_pending (env : Env) (svc : Services) (P : Particle) (st st' : NetSt) (q : String) (ids : List Nat)
    (hs : step env svc P st (.answer q ids) = some st') :
    ∃ chosen, List.Sublist chosen (peerSt st q).pending ∧ chosen ≠ [] ∧
      st' = absorb st (invoke env P st q {} (chosen.map fun x => (toString x.1, svc q x.2))) := by
  simp only [step] at hs
  split at hs
  · cases hs
  · rename_i hne
    injection hs with hs
    refine ⟨_, List.filter_sublist, ?_, hs.symm⟩
    intro hnil
    apply hne
    rw [hnil]; rfl

/-- non-vacuity: after the first run of any particle, the pending list of the init peer is what that run requested -/
example (env : Env) (svc : Services) (P : Particle) :
    ∃ st, Reachable env svc P st ∧ (peerSt st P.initPeer).pending = issued st P.initPeer :=
  ⟨_, ⟨[.start], rfl⟩, by
    show (peerSt (absorb {} (invoke env P {} P.initPeer {} [])) (invoke env P {} P.initPeer {} []).peer).pending = _
    rw [peerSt_absorb_self]
    show _ = issued (absorb {} (invoke env P {} P.initPeer {} [])) (invoke env P {} P.initPeer {} []).peer
    rw [issued_absorb_self]
    rfl⟩

end AquaProps.C05
