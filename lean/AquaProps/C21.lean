import Aqua.Run.Prepare
/-!
# C21 — data from unsupported interpreter versions is rejected

`parseData` is the model of `preparation_step::parse_data`; the rkyv decoder of the inner data is an
arbitrary parameter `tryToData`, `emptyInner` is the serialisation of the default data.
-/
namespace AquaProps.C21
open Aqua Aqua.Run

variable {D : Type}

theorem tryToEnvelope_error {emptyInner raw : Bytes} {e : ParseDataErr} (h : tryToEnvelope emptyInner raw = .error e)
    (v : Semver.Version) : e ≠ .unsupportedInterpreterVersion v := by
  unfold tryToEnvelope at h
  split at h
  · cases h
  · split at h <;> cases h <;> nofun

theorem checkVersionCompatibility_error {ce : Envelope} {e : ParseDataErr} :
    checkVersionCompatibility ce = .error e ↔
      Semver.lt ce.interpreterVersion minVersion = true ∧ e = .unsupportedInterpreterVersion ce.interpreterVersion := by
  unfold checkVersionCompatibility
  split <;> simp [*, eq_comm]

/-- Rejected iff older.  `parse_data` fails with `UnsupportedInterpreterVersion v` exactly when both
envelopes decode and the *current* envelope's interpreter version `v` is below the minimal one. -/
theorem C21_reject_iff (emptyInner : Bytes) (tryToData : Bytes → Option D) (prev cur : Bytes) (v : Semver.Version) :
    parseData emptyInner tryToData prev cur = .error (.unsupportedInterpreterVersion v) ↔
      ∃ pe ce, tryToEnvelope emptyInner prev = .ok pe ∧ tryToEnvelope emptyInner cur = .ok ce ∧
        ce.interpreterVersion = v ∧ Semver.lt v minVersion = true := by
  unfold parseData
  constructor
  · intro h
    split at h
    · cases h; exact absurd rfl (tryToEnvelope_error ‹_› v)
    split at h
    · cases h; exact absurd rfl (tryToEnvelope_error ‹_› v)
    split at h
    · rename_i pe hp _ ce hc _ e he
      obtain ⟨hlt, rfl⟩ := checkVersionCompatibility_error.mp he
      cases h
      exact ⟨pe, ce, hp, hc, rfl, hlt⟩
    · split at h <;> try cases h
      split at h <;> cases h
  · rintro ⟨pe, ce, hp, hc, rfl, hlt⟩
    simp only [hp, hc, checkVersionCompatibility, hlt, if_true]

/-- Data from a supported version is never rejected for its version. -/
theorem C21_supported_not_rejected (emptyInner : Bytes) (tryToData : Bytes → Option D) (prev cur : Bytes)
    (ce : Envelope) (hc : tryToEnvelope emptyInner cur = .ok ce)
    (hsup : Semver.lt ce.interpreterVersion minVersion = false) (v : Semver.Version) :
    parseData emptyInner tryToData prev cur ≠ .error (.unsupportedInterpreterVersion v) := by
  intro h
  obtain ⟨pe, ce', _, hc', hv, hlt⟩ := (C21_reject_iff emptyInner tryToData prev cur v).mp h
  rw [hc] at hc'
  injection hc' with hc'
  subst hc'
  rw [hv, hlt] at hsup
  contradiction

theorem min_not_lt_min : Semver.lt minVersion minVersion = false := by decide +kernel

/-- Empty current data is the empty data of the minimal supported version: it decodes to the default
data and is never rejected for its version. -/
theorem C21_empty_is_empty_data (emptyInner : Bytes) (tryToData : Bytes → Option D) (prev : Bytes) :
    tryToEnvelope emptyInner [] = .ok ⟨dataVersion, minVersion, emptyInner⟩ ∧
    (∀ v, parseData emptyInner tryToData prev [] ≠ .error (.unsupportedInterpreterVersion v)) ∧
    (∀ pe p c, tryToEnvelope emptyInner prev = .ok pe → tryToData pe.innerData = some p →
        tryToData emptyInner = some c → parseData emptyInner tryToData prev [] = .ok (p, c)) := by
  refine ⟨rfl, ?_, ?_⟩
  · intro v
    exact C21_supported_not_rejected emptyInner tryToData prev [] _ rfl min_not_lt_min v
  · intro pe p c hp hpd hcd
    have he : tryToEnvelope emptyInner [] = .ok ⟨dataVersion, minVersion, emptyInner⟩ := rfl
    simp only [parseData, hp, he, checkVersionCompatibility, min_not_lt_min, hpd, hcd]
    simp

theorem cmpNat_eq_iff (a b : Nat) : Semver.cmpNat a b = .eq ↔ a = b := by
  unfold Semver.cmpNat; split <;> (try split) <;> simp <;> omega
theorem cmpNat_lt_iff (a b : Nat) : Semver.cmpNat a b = .lt ↔ a < b := by
  unfold Semver.cmpNat; split <;> (try split) <;> simp [*]

theorem thenWith_eq_lt (o : Ordering) (f : Unit → Ordering) :
    Semver.thenWith o f = .lt ↔ o = .lt ∨ (o = .eq ∧ f () = .lt) := by
  cases o <;> simp [Semver.thenWith]

theorem cmpStr_nil_ne_lt (s : List Char) : Semver.cmpStr s [] ≠ .lt := by
  cases s <;> simp [Semver.cmpStr]

theorem cmpSegs_nil_ne_lt (seg) (l : List (List Char)) : Semver.cmpSegs seg l [] ≠ .lt := by
  cases l <;> simp [Semver.cmpSegs]

theorem cmpBuild_nil_ne_lt (b : List (List Char)) : Semver.cmpBuild b [] ≠ .lt := by
  have seg : ∀ s, Semver.cmpBuildSeg s [] ≠ .lt := fun s => by
    unfold Semver.cmpBuildSeg
    rw [show Semver.allDigits [] = true from rfl]
    cases Semver.allDigits s
    · nofun
    · simp [thenWith_eq_lt, cmpNat_lt_iff, cmpStr_nil_ne_lt, Semver.trimZeros]
  cases b with
  | nil => decide
  | cons s rest => simp [Semver.cmpBuild, Semver.cmpSegs, thenWith_eq_lt, seg, cmpSegs_nil_ne_lt]

theorem cmpPre_nil (p : List (List Char)) : (Semver.cmpPre p [] = .lt ↔ p ≠ []) ∧ (Semver.cmpPre p [] = .eq ↔ p = []) := by
  cases p <;> simp [Semver.cmpPre]

/-- Older than a release version `m` (no pre-release tag, no build metadata — true of the generated
minimal version, see `min_is_release`): lower `(major, minor, patch)` triple, or the same triple with a
pre-release tag.  Build metadata never makes a version older. -/
theorem C21_lt_release_iff (v m : Semver.Version) (hp : m.pre = []) (hb : m.build = []) :
    Semver.lt v m = true ↔
      (v.major < m.major ∨ (v.major = m.major ∧ (v.minor < m.minor ∨ (v.minor = m.minor ∧
        (v.patch < m.patch ∨ (v.patch = m.patch ∧ v.pre ≠ [])))))) := by
  simp only [Semver.lt, Semver.cmp, beq_iff_eq, thenWith_eq_lt, cmpNat_lt_iff, cmpNat_eq_iff, hp, hb, cmpPre_nil,
    cmpBuild_nil_ne_lt, and_false, or_false]

theorem min_is_release : minVersion.pre = [] ∧ minVersion.build = [] := by decide +kernel

example : Semver.parse "0.60.9".toList = some ⟨0, 60, 9, [], []⟩ := by decide +kernel
example : Semver.lt ⟨0, 60, 9, [], []⟩ minVersion = true := by decide +kernel
example : Semver.lt ⟨0, 61, 0, ["rc".toList], []⟩ minVersion = true := by decide +kernel
example : Semver.lt ⟨0, 61, 0, [], ["7".toList]⟩ minVersion = false := by decide +kernel
example : Semver.parse "0.61.0-rc.1+b.07".toList = some ⟨0, 61, 0, ["rc".toList, "1".toList], ["b".toList, "07".toList]⟩ := by decide +kernel
example : Semver.parse "0.61.0-01".toList = none := by decide +kernel

end AquaProps.C21
