import AquaProps.Lemmas.NetLift
import AquaProps.C17
/-!
# C17 along whole histories (`Aqua.Net`)

`C17_run_requests` needs the incoming tetraplet stores to be keyed by content.  For honest histories this is
not an assumption: the stores a run returns are keyed (the invariant `EnvInv` is preserved by every script),
hosts store and forward exactly what runs return, so by induction over the events every stored data and every
message on the wire is keyed — whatever the script, the services and the schedule.  Hence the specification
of tetraplets holds for every request any host is ever handed, including for values that arrived through
merged data.
-/
namespace AquaProps.C17
open Aqua Aqua.Exec Aqua.Air Aqua.Data Aqua.Net AquaProps AquaProps.NetLift

structure KeyedNet (env : Env) (st : NetSt) : Prop where
  stored : ∀ q, KeyedList env (peerSt st q).data.cid.tetraplets
  wire : ∀ m ∈ st.wire, KeyedList env m.data.cid.tetraplets
  runs : ∀ r ∈ st.runs, KeyedList env r.prev.cid.tetraplets ∧ KeyedList env r.cur.cid.tetraplets

theorem keyedList_nil (env : Env) : KeyedList env [] := fun e he => by cases he

theorem genuine_newData_keyed {env : Env} {P : Particle} {r : Run} (hg : Genuine env P r)
    (hp : KeyedList env r.prev.cid.tetraplets) (hc : KeyedList env r.cur.cid.tetraplets) :
    KeyedList env r.newData.cid.tetraplets := by
  unfold Run.newData
  split
  · show KeyedList env r.out.cid.tetraplets
    rw [hg.frame.cid]
    exact (C17_env_inv_preserved env r.fuel P.script _ (envInv_initCtx env r.prev r.cur _ r.results hp hc)).keyed
  · exact hp

theorem keyedNet_absorb {env : Env} {P : Particle} {st : NetSt} (h : KeyedNet env st) (r : Run) (hg : Genuine env P r)
    (hp : r.prev = (peerSt st r.peer).data) (hc : KeyedList env r.cur.cid.tetraplets) : KeyedNet env (absorb st r) := by
  have hprev : KeyedList env r.prev.cid.tetraplets := by rw [hp]; exact h.stored r.peer
  have ⟨hs, hw⟩ := data_absorb (Q := fun d => KeyedList env d.cid.tetraplets) h.stored h.wire (genuine_newData_keyed hg hprev hc)
  exact ⟨hs, hw, runs_absorb h.runs ⟨hprev, hc⟩⟩

/-- the current data of every invocation is empty or was on the wire, so it is keyed -/
theorem reachable_keyed {env : Env} {svc : Services} {P : Particle} {st : NetSt} (h : Reachable env svc P st) : KeyedNet env st :=
  reachable_induction_invoke (KeyedNet env) ⟨fun _ => keyedList_nil env, fun _ hm => (nomatch hm), fun _ hr => (nomatch hr)⟩
    (fun _ _ hw h => ⟨h.stored, fun m hm => h.wire m (hw.subset hm), h.runs⟩)
    (fun _ _ _ _ h hcur => keyedNet_absorb h _ (invoke_genuine ..) rfl
      (hcur.elim (· ▸ keyedList_nil env) fun ⟨m, hm, e⟩ => e ▸ h.wire m hm)) h

/-- Tetraplets along any honest history: every call request any host is ever handed — in every reachable state
of the network, for every script, every behaviour of the services and every schedule of deliveries, duplicates
and late answers — was built in a context satisfying the provenance invariant and carries, per argument, exactly
the tetraplets the specification assigns (for the argument forms the specification covers), also when the value
arrived through merged data of other peers. -/
theorem C17_network_requests (env : Env) (svc : Services) (P : Particle) (st : NetSt) (h : Reachable env svc P st) :
    ∀ r ∈ st.runs, ∀ x ∈ r.requests, ∃ (c0 : Ctx) (args : List Value), EnvInv env c0 ∧
      x.2.arguments.length = args.length ∧ x.2.tetraplets.length = args.length ∧
      ∀ (j : Nat) (a : Value) (ts : List Tetraplet), args[j]? = some a → x.2.tetraplets[j]? = some ts → Covered a = true →
        expectedTetraplets a (prov c0) = some ts := by
  intro r hr x hx
  have hg := (reachable_inv h).genuine r hr
  obtain ⟨hp, hc⟩ := (reachable_keyed h).runs r hr
  exact C17_run_requests env r.fuel P.script r.prev r.cur _ r.results hp hc x (hg.mem_requests hx)

end AquaProps.C17
