import AquaProps.Lemmas.NetLift
import AquaProps.C19
/-!
# C19 along whole histories (`Aqua.Net`)

The per-run theorems of `C19.lean` hold for arbitrary inputs; here they are stated for every run of every
state honest hosts can reach (any script, services and schedule): a host is only ever asked to execute
calls addressed to its own peer, and is never asked to send the particle to itself.
-/
namespace AquaProps.C19
open Aqua Aqua.Exec Aqua.Air Aqua.Net AquaProps AquaProps.NetLift

/-- Calls run only where they are addressed, along any honest history: every request any host was ever
handed names a call whose resolved peer is that host's peer. -/
theorem C19_network_requests_local (env : Env) (svc : Services) (P : Particle) (st : NetSt)
    (h : Reachable env svc P st) : ∀ r ∈ st.runs, ∀ x ∈ r.requests, x.2.forPeer = r.peer :=
  fun r hr x hx => C19_local_only env r.fuel P.script r.prev r.cur (params P r) r.results x
    (((reachable_inv h).genuine r hr).mem_requests hx)

/-- No host is ever asked to send the particle to itself (so no message on the wire is addressed to the
peer whose run produced it). -/
theorem C19_network_never_forwards_to_self (env : Env) (svc : Services) (P : Particle) (st : NetSt)
    (h : Reachable env svc P st) : ∀ r ∈ st.runs, ∀ q ∈ r.nextPeers, q ≠ r.peer :=
  fun r hr q hq => C19_next_peers_not_self env r.fuel P.script r.prev r.cur (params P r) r.results q
    (((reachable_inv h).genuine r hr).mem_nextPeers hq)

/-- a run that is not accepted (uncatchable error, panic) hands its host nothing: no request, no next peer, the stored data unchanged -/
theorem C19_network_failed_run_inert (r : Run) (h : accepted r.res = false) :
    r.requests = [] ∧ r.nextPeers = [] ∧ r.newData = r.prev := by
  unfold Run.requests Run.nextPeers Run.newData
  simp [h]

/-- non-vacuity: the empty history is reachable, and so is the state after the first run of any particle -/
example (env : Env) (svc : Services) (P : Particle) : Reachable env svc P {} := ⟨[], rfl⟩
example (env : Env) (svc : Services) (P : Particle) : ∃ st, Reachable env svc P st ∧ st.runs.length = 1 :=
  ⟨_, ⟨[.start], rfl⟩, rfl⟩

/-- Everything on the wire was produced by a run: in every reachable state, each message in flight carries the
data an earlier accepted run returned to its host and is addressed to one of the next peers that run named —
never to the peer that produced it.  (So the current data an honest host is ever handed is interpreter output,
and a particle travels only where some run asked for it.) -/
theorem C19_network_wire_from_runs (env : Env) (svc : Services) (P : Particle) (st : NetSt)
    (h : Reachable env svc P st) :
    ∀ m ∈ st.wire, ∃ r ∈ st.runs, accepted r.res = true ∧ m.data = r.newData ∧ m.dest ∈ r.nextPeers ∧ m.dest ≠ r.peer := by
  have hw : ∀ m ∈ st.wire, ∃ r ∈ st.runs, m.data = r.newData ∧ m.dest ∈ r.nextPeers := by
    refine reachable_induction (env := env) (svc := svc) (P := P)
      (fun st => ∀ m ∈ st.wire, ∃ r ∈ st.runs, m.data = r.newData ∧ m.dest ∈ r.nextPeers) ?_ ?_ ?_ h
    · intro m hm; cases hm
    · intro st w hsub hq m hm; exact hq m (hsub.subset hm)
    · intro st r hq m hm
      rcases List.mem_append.mp (show m ∈ st.wire ++ r.nextPeers.map (fun q => (⟨q, r.newData⟩ : Msg)) from hm) with hm | hm
      · obtain ⟨r', hr', h'⟩ := hq m hm
        exact ⟨r', List.mem_append_left _ hr', h'⟩
      · obtain ⟨q, hq', rfl⟩ := List.mem_map.mp hm
        exact ⟨r, List.mem_append_right _ (List.mem_singleton.mpr rfl), rfl, hq'⟩
  intro m hm
  obtain ⟨r, hr, h1, h2⟩ := hw m hm
  refine ⟨r, hr, ?_, h1, h2, C19_network_never_forwards_to_self env svc P st h r hr m.dest h2⟩
  cases hacc : accepted r.res with
  | true => rfl
  | false =>
    have := (C19_network_failed_run_inert r hacc).2.1
    rw [this] at h2; cases h2

end AquaProps.C19
