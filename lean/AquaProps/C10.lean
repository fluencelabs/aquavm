import AquaProps.Lemmas.TraceParWF
import AquaProps.Lemmas.TraceEff
import AquaProps.Lemmas.TraceFoldBridge
/-!
# C10 — produced traces are structurally well formed

`Aqua.Trace.wfTrace` (file `Aqua/Trace/WF.lean`) is the executable definition of well-formedness (DESIGN.md
Appendix A), split into the clauses `wfPar`, `wfFold`, `wfNesting`, `wfValuePos`, `wfGenerations`; the Rust oracle
`harness/src/wf.rs` is its transcription and both are compared on every produced and mutated trace.

The theorems below are about the trace-handler model (`Aqua/Trace/Handler.lean`, a replica of
`air-trace-handler`, tied to the real crate by the operation-sequence correspondence of `props/traceops.rs`
and `props/c10.rs`), for all previous/current traces — the builders only look at the result trace — and
all operation sequences of the stated shape (`HOp` = one call of the `TraceHandler` API).
-/
namespace AquaProps.C10
open Aqua Aqua.Data Aqua.Trace

theorem parInv_fromTrace (prev cur : Trace) : ParInv (TraceHandler.fromTrace prev cur) :=
  ⟨fun _ hg => by simp [TraceHandler.fromTrace] at hg,
   fun _ _ hf => by simp [TraceHandler.fromTrace, TraceHandler.fsm, lookupFsm] at hf⟩

/-- C10, par clause, full strength.  For all previous and current traces (also malformed ones) and every
operation sequence in which pars are well bracketed (`WB`: `meetParStart`, left subgraph, `meetParSubgraphEnd
left`, right subgraph, `meetParSubgraphEnd right`; fold operations, `update_generation`, merger calls are
unconstrained and may interleave with par boundaries, as `next` makes them do): if every call succeeds, the
result trace satisfies `wfPar` — each `Par(l, r)` is followed by exactly `l` entries forming its left part and `r`
entries forming its right part, recursively, and the reading ends exactly at the end of the trace.
(`u32` side condition: `ParBuilder::build` casts the sizes with `as u32`.) -/
theorem C10_par_wf (prev cur : Trace) (ops : List HOp) (h' : TraceHandler) (wb : WB ops)
    (run : runOps ops (TraceHandler.fromTrace prev cur) = some h') (small : h'.tr.length ≤ u32Max) :
    wfPar h'.tr = true := by
  obtain ⟨_, _, seg, hseg, hf⟩ := run_wb wb (parInv_fromTrace prev cur) run
  apply wfPar_of_forest
  have : (TraceHandler.fromTrace prev cur).sizes = [] := rfl
  rw [this, List.nil_append] at hseg
  show ForestS h'.sizes
  rw [hseg]; exact hf small

/-- the executable clause `wfPar` is exactly the inductive forest reading of the `(left, right)` sizes -/
theorem C10_wfPar_iff_forest (t : Trace) : wfPar t = true ↔ ForestS (t.map parSizes) := wfPar_iff_forest t

/-- the same from any handler state that satisfies the reservation invariant: the run appends a forest -/
theorem C10_par_wf_segment (h h' : TraceHandler) (ops : List HOp) (inv : ParInv h) (wb : WB ops)
    (run : runOps ops h = some h') (small : h'.tr.length ≤ u32Max) :
    ParInv h' ∧ h'.parStack = h.parStack ∧ ∃ seg, h'.sizes = h.sizes ++ seg ∧ ForestS seg := by
  obtain ⟨g, st, seg, hseg, hf⟩ := run_wb wb inv run
  exact ⟨g, st, seg, hseg, hf small⟩

/-- One par (`StateInserter` + `ParBuilder::track`).  For a par executed as `meetParStart; ⟨left ops⟩;
meetParSubgraphEnd left; ⟨right ops⟩; meetParSubgraphEnd right` with well-bracketed subgraphs, if all calls
succeed: the position reserved by `meetParStart` holds `Par(l, r)` with `l` = the number of states pushed by the
left ops and `r` = by the right ops, the trace is as long as before the closing call, and every other position
below the reserved one keeps its sizes (nothing else was clobbered). -/
theorem C10_par_block (h h1 h2 h3 h4 h5 : TraceHandler) (l r : List HOp) (inv : ParInv h) (wl : WB l) (wr : WB r)
    (e1 : h.meetParStart = .ok h1) (e2 : runOps l h1 = some h2) (e3 : h2.meetParSubgraphEnd .left = .ok h3)
    (e4 : runOps r h3 = some h4) (e5 : h4.meetParSubgraphEnd .right = .ok h5) (small : h5.tr.length ≤ u32Max) :
    h5.tr[h.tr.length]? = some (.par (h2.tr.length - h1.tr.length) (h4.tr.length - h3.tr.length)) ∧
      h5.tr.length = h4.tr.length ∧ h1.tr.length = h.tr.length + 1 ∧ h3.tr = h2.tr ∧
      h5.sizes.take h.tr.length = h.sizes ∧ ParInv h5 ∧ h5.parStack = h.parStack := by
  have g1 := inv.parStart e1
  obtain ⟨g2, s2, segL, z2, _⟩ := run_wb wl g1 e2
  have g3 := g2.parEndLeft e3
  obtain ⟨g4, s4, segR, z4, _⟩ := run_wb wr g3 e4
  obtain ⟨st5, ht1, ht3, ht5⟩ := par_block e1 s2 e3 s4 e5
  have z5 := par_block_sizes e1 s2 z2 e3 s4 z4 e5
  have a1 : h1.tr.length = h.tr.length + 1 := by rw [ht1, List.length_append]; rfl
  have a5 : h5.tr.length = h4.tr.length := by rw [ht5]; exact List.length_set
  have a2 := length_le_of_runOps e2
  have a4 := length_le_of_runOps e4
  have a3 : h3.tr.length = h2.tr.length := congrArg _ ht3
  have ⟨hlt, bL, bR⟩ : h.tr.length < h4.tr.length ∧ h2.tr.length - h1.tr.length ≤ u32Max ∧
      h4.tr.length - h3.tr.length ≤ u32Max := by omega
  refine ⟨?_, a5, a1, ht3, by rw [z5, ← sizes_length h, List.take_left], g4.parEndRight e5, st5⟩
  -- below `u32::MAX` states the casts are exact
  rw [ht5, setAt, List.getElem?_set_self hlt, truncU32_of_le bL, truncU32_of_le bR]

/-- Positions are stable.  One call of the trace-handler API appends at most one state to the result trace and
rewrites at most one existing position: the position reserved (by `StateInserter`) for the par whose right
subgraph ends / for the fold that ends, or the position named by `update_generation`.  Every other existing
position keeps its state. -/
theorem C10_positions_stable (h h' : TraceHandler) (op : HOp) (e : op.apply h = some h') :
    ∃ t0 suffix, h'.tr = t0 ++ suffix ∧ t0.length = h.tr.length ∧ suffix.length ≤ 1 ∧
      ∀ i, op.rewrites h ≠ some i → t0[i]? = h.tr[i]? :=
  trace_eff op e

/-- the result trace never shrinks along an operation sequence -/
theorem C10_result_trace_only_grows (ops : List HOp) (h h' : TraceHandler) (e : runOps ops h = some h') :
    h.tr.length ≤ h'.tr.length :=
  length_le_of_runOps e

/-- `update_generation` rewrites only the generation of an `Ap` / stream `Call` state (and fails on anything else) -/
theorem C10_update_generation_spec (h h' : TraceHandler) (p g : Nat) (e : h.updateGeneration p g = .ok h') :
    (∃ gens, h.tr[p]? = some (.ap gens) ∧ h'.tr = h.tr.set p (.ap [g])) ∨
    (∃ cid g0, h.tr[p]? = some (.call (.executed (.stream cid g0))) ∧
      h'.tr = h.tr.set p (.call (.executed (.stream cid g)))) :=
  (updateGeneration_eff e).2.2

/-- a run of `update_generation` calls, as `Stream::compactify` issues them -/
def updOps (upds : List (Nat × Nat)) : List HOp := upds.map fun (p, g) => .updateGeneration p g

theorem upd_invariant (upds : List (Nat × Nat)) (hstub : ∀ u ∈ upds, u.2 ≠ generationStub) :
    ∀ (h h' : TraceHandler), runOps (updOps upds) h = some h' →
      h'.tr.length = h.tr.length ∧
      ∀ i s', h'.tr[i]? = some s' → wfGenerationState s' = true ∨
        (h.tr[i]? = some s' ∧ ∀ g, (i, g) ∉ upds) := by
  induction upds with
  | nil =>
    intro h h' e
    simp only [updOps, List.map_nil, runOps, Option.some.injEq] at e; subst e
    exact ⟨rfl, fun i s' hs => .inr ⟨hs, by simp⟩⟩
  | cons u rest ih =>
    intro h h' e
    obtain ⟨p, g⟩ := u
    obtain ⟨h1, e1, e2⟩ := runOps_cons.mp (show runOps (.updateGeneration p g :: updOps rest) h = some h' from e)
    have e1 := resOk_eq_some.mp e1
    have hg : g ≠ generationStub := hstub (p, g) List.mem_cons_self
    obtain ⟨hlen, hrest⟩ := ih (fun u hu => hstub u (List.mem_cons_of_mem _ hu)) h1 h' e2
    -- either way the state written carries the real generation `g`
    obtain ⟨x, ht, hx⟩ : ∃ x, h1.tr = h.tr.set p x ∧ wfGenerationState x = true := by
      rcases (updateGeneration_eff e1).2.2 with ⟨_, _, ht⟩ | ⟨_, _, _, ht⟩ <;>
        exact ⟨_, ht, by simpa [wfGenerationState] using hg⟩
    have h1len : h1.tr.length = h.tr.length := by rw [ht]; exact List.length_set
    refine ⟨hlen.trans h1len, fun i s' hs => ?_⟩
    rcases hrest i s' hs with hok | ⟨h1i, hni⟩
    · exact .inl hok
    · by_cases hip : p = i
      · subst hip
        have hlt : p < h.tr.length := h1len ▸ lt_of_getElem?_eq_some h1i
        rw [ht, List.getElem?_set_self hlt] at h1i
        cases h1i; exact .inl hx
      · rw [ht, List.getElem?_set_ne hip] at h1i
        refine .inr ⟨h1i, fun g' hmem => ?_⟩
        rcases List.mem_cons.mp hmem with heq | hmem
        · cases heq; exact hip rfl
        · exact hni g' hmem

/-- C10, generations (what the trace handler guarantees).  `update_generation p g` rewrites exactly the
generation at `p` (`C10_update_generation_spec`, `C10_positions_stable`).  Hence: if, at the end of a run,
`compactify` issues `update_generation` with a real generation (≠ `0xCAFEBABE`) for every entry that does not yet
carry exactly one real generation (in particular for every stream value that was pushed with the placeholder),
then no placeholder remains and every `Ap` has exactly one generation: `wfGenerations` holds.
Partial: that `Stream::compactify` does visit every stream value of the run (every `ValueAggregate` of every
stream, global and `new`-scoped, keeps its trace position) and that its generations are below the placeholder is a
fact about the executor's stream bookkeeping, outside `Aqua/Trace/Handler.lean` (C12 treats the model of
`compactify` in `Aqua/Exec/Streams.lean`; the two are not connected here); it is the hypothesis `cover` here and is
searched by the oracle on every produced data. -/
theorem C10_no_stub_generation_partial (h h' : TraceHandler) (upds : List (Nat × Nat))
    (real : ∀ u ∈ upds, u.2 ≠ generationStub)
    (cover : ∀ i s, h.tr[i]? = some s → wfGenerationState s = false → ∃ g, (i, g) ∈ upds)
    (run : runOps (updOps upds) h = some h') : wfGenerations h'.tr = true := by
  obtain ⟨_, hinv⟩ := upd_invariant upds real h h' run
  unfold wfGenerations
  rw [List.all_eq_true]
  intro s hs
  obtain ⟨i, hi, rfl⟩ := List.mem_iff_getElem.mp hs
  have hsome : h'.tr[i]? = some h'.tr[i] := List.getElem?_eq_getElem hi
  rcases hinv i _ hsome with hok | ⟨horig, hnot⟩
  · exact hok
  · cases hw : wfGenerationState h'.tr[i] with
    | true => rfl
    | false =>
      obtain ⟨g, hg⟩ := cover i _ horig hw
      exact absurd hg (hnot g)

/-- C10, fold clause (tiling), partial.  For every handler state and a fold driven as the executor drives a
stream fold — `meet_fold_start id`; a body under the call discipline `foldStep` (per batch:
`meet_iteration_start`, arbitrary operations of other instructions — pars, calls, other folds, nested to any
depth —, `meet_iteration_end` directly followed by the next `meet_iteration_start` or by the first
`meet_back_iterator`, further `meet_back_iterator`s with arbitrary operations in between, and
`meet_generation_end` at any point of the batch = early exit on a catchable error, closed by
`SubTraceLoreCtorQueue::finish`); `meet_fold_end id` — if all calls succeed then

* the position reserved by `meet_fold_start` holds `Fold(lore)` and the trace is as long as before `meet_fold_end`;
* `lore` is the concatenation of the batches `lbs` (one per `meet_generation_end`); each batch is non-empty and is
  laid out `B₁ … B_k A_k … A₁` exactly from where the previous one ended, the first at the position after the
  fold entry, the last ending at the end of the trace (`BatchesTile`): the `2n` ranges tile the region after
  the fold entry without gap or overlap;
* entry `i` of batch `b` has the value position passed to the `i`-th `meet_iteration_start` of that batch and its
  before-part begins at the result-trace length at that call (`lg`): so `value_pos < begin B` as soon as the
  executor passes positions of already pushed states;
* if moreover the batches are the generation runs of the final trace (`GroupsGen`, an executor-side fact), the
  executable clause `wfFoldAt` accepts the entry.

Partial with respect to `C10_full`: the discipline and `GroupsGen` are hypotheses about the executor (they are not
derived from the stream fold of `Aqua/Exec/Exec.lean`); the frame nesting clause `wfNesting` is not proved. -/
theorem C10_fold_wf_partial (id : Nat) (h0 h1 h2 h3 : TraceHandler) (body : List HOp) (lg : FoldLog)
    (e1 : h0.meetFoldStart id = .ok h1) (e2 : runFold id .idle body h1 ([], []) = some (.idle, h2, lg))
    (e3 : h2.meetFoldEnd id = .ok h3) (small : h3.tr.length ≤ u32Max) :
    ∃ lbs : List (List FoldSubTraceLore),
      h3.tr[h0.tr.length]? = some (.fold lbs.flatten) ∧ h3.tr.length = h2.tr.length ∧
      BatchesTile (h0.tr.length + 1) lbs h3.tr.length ∧
      lbs.map (List.map loreKey) = lg.1 ∧
      (GroupsGen h3.tr none lbs → wfFoldAt h3.tr h0.tr.length lbs.flatten = true) := by
  obtain ⟨lbs, hfold, htile, hkeys, _, hlen, _⟩ := fold_block e1 e2 e3 small
  exact ⟨lbs, hfold, hlen, htile, hkeys, fun hg => wfFoldAt_of_batches htile hg (Nat.le_refl _)⟩

/-- the fold body run under the discipline is an ordinary run of the same operations: the par theorem applies to it -/
theorem C10_fold_body_is_run (id : Nat) (ph ph' : Phase) (body : List HOp) (h h' : TraceHandler) (lg lg' : FoldLog)
    (e : runFold id ph body h lg = some (ph', h', lg')) : runOps body h = some h' :=
  runFold_runOps e

/-- Value positions of a fold driven as above: every lore entry's `(value_pos, begin of its before-part)` is
the `(value_pos, result-trace length)` of one `meet_iteration_start`; so if the executor only passes positions of
states it has already pushed, `value_pos < begin B` (first half of `wfValuePos`; that the position holds an `Ap`
or a stream `Call` is the executor's pairing of stream values with trace positions). -/
theorem C10_value_pos_before_partial (id : Nat) (h0 h1 h2 h3 : TraceHandler) (body : List HOp) (lg : FoldLog)
    (e1 : h0.meetFoldStart id = .ok h1) (e2 : runFold id .idle body h1 ([], []) = some (.idle, h2, lg))
    (e3 : h2.meetFoldEnd id = .ok h3) (small : h3.tr.length ≤ u32Max)
    (pushed : ∀ grp ∈ lg.1, ∀ k ∈ grp, k.1 < k.2) :
    ∃ lore, h3.tr[h0.tr.length]? = some (.fold lore) ∧ ∀ l ∈ lore, (loreKey l).1 < (loreKey l).2 := by
  obtain ⟨lbs, hfold, _, hkeys, _, _, _⟩ := fold_block e1 e2 e3 small
  refine ⟨lbs.flatten, hfold, ?_⟩
  intro l hl
  obtain ⟨lb, hlb, hl'⟩ := List.mem_flatten.mp hl
  have : lb.map loreKey ∈ lg.1 := by rw [← hkeys]; exact List.mem_map_of_mem hlb
  exact pushed _ this _ (List.mem_map_of_mem hl')

/-- C10 at full strength, for the relation `ExecutorRun prev cur ops` = "a completed run of the executor on
data with traces `prev`, `cur` issues exactly the trace-handler calls `ops`" (to be instantiated with the
instrumented run of the executor model): every result trace is well formed.
Proved of it: the `wfPar` clause (`C10_par_wf`; the only executor fact used is that pars are bracketed, which
`par.rs` does also on catchable errors).  Partial: `wfFold` (`C10_fold_wf_partial`: under the call discipline
`foldStep` and the generation grouping `GroupsGen`), `wfValuePos` (`C10_value_pos_before_partial`: the `<` half),
`wfGenerations` (`C10_no_stub_generation_partial`: under the coverage of `compactify`).  Not proved: `wfNesting`
(frames are units of the par forest; fold regions stay inside their par part) — searched by the oracle on every
produced data and on the result traces of handler programs. -/
def C10_full (ExecutorRun : Trace → Trace → List HOp → Prop) : Prop :=
  ∀ (prev cur : Trace) (ops : List HOp) (h' : TraceHandler),
    ExecutorRun prev cur ops → runOps ops (TraceHandler.fromTrace prev cur) = some h' →
    h'.tr.length ≤ u32Max → wfTrace h'.tr = true

/-- `(par (call) (par (ap) (canon)))`-like sequence with a fold start/end and a generation update in between -/
def exOps : List HOp :=
  [.parStart, .callStart, .callEnd (.executed (.scalar "c1")), .parEnd .left,
   .parStart, .apStart, .apEnd [generationStub], .parEnd .left, .foldStart 1, .foldEnd 1, .canonStart,
   .canonEnd (.executed "cn"), .parEnd .right, .parEnd .right, .updateGeneration 3 0]

example : WB exOps := by
  unfold exOps
  refine .par [_, _] [_, _, _, _, _, _, _, _, _] [_] (.simple _ _ rfl (.simple _ _ rfl .nil)) ?_
    (.simple _ _ rfl .nil)
  exact .par [_, _] [_, _, _, _] [] (.simple _ _ rfl (.simple _ _ rfl .nil))
    (.simple _ _ rfl (.simple _ _ rfl (.simple _ _ rfl (.simple _ _ rfl .nil)))) .nil

example : (runOps exOps (TraceHandler.fromTrace [] [])).map (·.tr) =
    some [.par 1 4, .call (.executed (.scalar "c1")), .par 1 2, .ap [0], .fold [], .canon (.executed "cn")] := by
  decide +kernel

/-- two stream values of generation 0, a fold over them: `B₁ = [call]`, `B₂ = [call]`, `A₂ = [canon]`, `A₁ = []` -/
def exFoldBody : List HOp :=
  [.iterStart 1 0, .callStart, .callEnd (.executed (.scalar "b1")), .iterEnd 1,
   .iterStart 1 1, .callStart, .callEnd (.executed (.scalar "b2")), .iterEnd 1,
   .backIter 1, .canonStart, .canonEnd (.executed "a2"), .backIter 1, .genEnd 1]

def exFoldPrefix : List HOp := [.apStart, .apEnd [generationStub], .apStart, .apEnd [generationStub]]

def exH0 : Option TraceHandler := runOps exFoldPrefix (TraceHandler.fromTrace [] [])

/-- the hypotheses of `C10_fold_wf_partial` are met by a concrete run … -/
example : (exH0.bind fun h0 => (resOk (h0.meetFoldStart 1)).bind fun h1 =>
      (runFold 1 .idle exFoldBody h1 ([], [])).map fun r => (r.1, r.2.2)) =
    some (.idle, ([[(0, 3), (1, 4)]], [])) := by decide +kernel

/-- … and by an early exit: `meet_generation_end` right after the second iteration started -/
example : (exH0.bind fun h0 => (resOk (h0.meetFoldStart 1)).bind fun h1 =>
      (runFold 1 .idle (exFoldBody.take 7 ++ [.genEnd 1]) h1 ([], [])).map fun r => (r.1, r.2.2)) =
    some (.idle, ([[(0, 3), (1, 4)]], [])) := by decide +kernel

/-- the whole run (fold, then `compactify`'s two updates): the result trace is well formed, every clause -/
example : ((runOps (exFoldPrefix ++ [.foldStart 1] ++ exFoldBody ++ [.foldEnd 1] ++ updOps [(0, 0), (1, 0)])
      (TraceHandler.fromTrace [] [])).map fun h => (h.tr, wfTrace h.tr)) =
    some ([.ap [0], .ap [0],
           .fold [⟨0, [⟨3, 1⟩, ⟨6, 0⟩]⟩, ⟨1, [⟨4, 1⟩, ⟨5, 1⟩]⟩],
           .call (.executed (.scalar "b1")), .call (.executed (.scalar "b2")), .canon (.executed "a2")], true) := by
  decide +kernel

/-- the early exit leaves `B₂ = [call]` closed by `finish`, empty after-parts at the end: still well formed -/
example : ((runOps (exFoldPrefix ++ [.foldStart 1] ++ exFoldBody.take 7 ++ [.genEnd 1, .foldEnd 1] ++
        updOps [(0, 0), (1, 0)]) (TraceHandler.fromTrace [] [])).map fun h => (h.tr, wfTrace h.tr)) =
    some ([.ap [0], .ap [0],
           .fold [⟨0, [⟨3, 1⟩, ⟨5, 0⟩]⟩, ⟨1, [⟨4, 1⟩, ⟨5, 0⟩]⟩],
           .call (.executed (.scalar "b1")), .call (.executed (.scalar "b2"))], true) := by
  decide +kernel

/-- hypotheses of `C10_no_stub_generation_partial`: both placeholders are covered, none remains -/
example : (exH0.map fun h => (wfGenerations h.tr,
      ((runOps (updOps [(0, 0), (1, 0)]) h).map fun h' => wfGenerations h'.tr))) = some (false, some true) := by
  decide +kernel

/-- the definition rejects what it must: a par one too long, a lore begin off by one, a placeholder generation -/
example : wfTrace [.par 1 1, .call (.executed (.scalar "x"))] = false := by decide
example : wfTrace [.ap [0], .fold [⟨0, [⟨3, 1⟩, ⟨3, 0⟩]⟩], .canon (.executed "c")] = false := by decide
example : wfTrace [.ap [0], .fold [⟨0, [⟨2, 1⟩, ⟨3, 0⟩]⟩], .canon (.executed "c")] = true := by decide +kernel
example : wfTrace [.ap [generationStub]] = false := by decide

end AquaProps.C10
