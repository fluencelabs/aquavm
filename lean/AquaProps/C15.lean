import Aqua.Run.Verify
import Aqua.Run.Runner
import Mathlib.Data.List.Perm.Subperm
/-!
# C15 — a peer cannot present two incompatible versions of its own results

`mergePeer` is the model of the per-peer step of `DataVerifier::merge`; multiset inclusion of CID lists is
`List.Subperm`.
-/
namespace AquaProps.C15
open Aqua Aqua.Run

theorem isMultisubset_iff (larger smaller : List String) :
    isMultisubset larger smaller = true ↔ smaller.Subperm larger := by
  unfold isMultisubset countOf
  rw [List.all_eq_true]
  simp only [decide_eq_true_eq]
  exact (List.subperm_ext_iff).symm

/-- Specification of the merge, for every pair of signed result sets of one peer:
it succeeds exactly when one multiset contains the other, and then keeps the entry (hence the
signature) of the larger one — the previous one when both have the same size. -/
theorem C15_merge_spec (ours other : PeerInfo) :
    mergePeer ours other =
      if ours.cids.length < other.cids.length then
        (if ours.cids.Subperm other.cids then .ok other else .error ())
      else
        (if other.cids.Subperm ours.cids then .ok ours else .error ()) := by
  unfold mergePeer
  split <;> simp only [isMultisubset_iff]

/-- Equivocation is rejected: if neither result set contains the other (as multisets), the merge fails. -/
theorem C15_incomparable_rejected (ours other : PeerInfo)
    (h1 : ¬ ours.cids.Subperm other.cids) (h2 : ¬ other.cids.Subperm ours.cids) :
    mergePeer ours other = .error () := by
  rw [C15_merge_spec, if_neg h1, if_neg h2, ite_self]

/-- Nested sets are accepted and the larger one is kept (current contains previous). -/
theorem C15_nested_keeps_larger (ours other : PeerInfo) (h : ours.cids.Subperm other.cids) :
    ∃ kept, mergePeer ours other = .ok kept ∧ kept.cids.Perm other.cids ∧
      (kept = other ∨ (kept = ours ∧ ours.cids.length = other.cids.length)) := by
  rw [C15_merge_spec]
  split
  · exact ⟨other, rfl, .refl _, .inl rfl⟩
  · have hperm : ours.cids.Perm other.cids := h.perm_of_length_le (Nat.le_of_not_lt ‹_›)
    exact ⟨ours, if_pos hperm.symm.subperm, hperm, .inr ⟨rfl, hperm.length_eq⟩⟩

/-- symmetric case: previous contains current — the previous entry is kept -/
theorem C15_nested_keeps_larger' (ours other : PeerInfo) (h : other.cids.Subperm ours.cids) :
    ∃ kept, mergePeer ours other = .ok kept ∧ kept.cids.Perm ours.cids := by
  rw [C15_merge_spec]
  split
  · have hperm : other.cids.Perm ours.cids := h.perm_of_length_le (Nat.le_of_lt ‹_›)
    exact ⟨other, if_pos hperm.symm.subperm, hperm⟩
  · exact ⟨ours, rfl, .refl _⟩

/-- a successful merge never invents an entry: the kept one is one of the two inputs and both inputs
are contained in it -/
theorem C15_kept_contains_both (ours other kept : PeerInfo) (h : mergePeer ours other = .ok kept) :
    (kept = ours ∨ kept = other) ∧ ours.cids.Subperm kept.cids ∧ other.cids.Subperm kept.cids := by
  rw [C15_merge_spec] at h
  split at h <;> split at h <;> cases h
  · exact ⟨.inr rfl, ‹_›, .refl _⟩
  · exact ⟨.inl rfl, .refl _, ‹_›⟩

/-- with the staged runner (C02): a failing verification stage returns the previous data untouched -/
theorem C15_rejected_returns_prev {B D S A C K X : Type} (St : Stages B D S A C K X) (l : Limits) (inp : RunInput B)
    (p c : D) (e : Err)
    (hsize : ∃ f, checkAgainstSizeLimits l inp.air.utf8ByteSize (St.blob.len inp.cur) = .ok f)
    (hp : St.parseData inp.prev inp.cur = .ok (p, c))
    (hv : St.verify p c inp.params.particleId = .error e) :
    let o := executeAir St l inp
    o.retCode = e.code ∧ o.data = inp.prev ∧ o.nextPeerPks = [] ∧ o.callRequests = St.emptyCallRequests := by
  obtain ⟨f, hf⟩ := hsize
  simp [executeAir, hf, hp, hv, fromUncatchableError]

/-! ## Non-vacuity and the multiplicity case that plain set inclusion would miss -/
def pX : PeerInfo := ⟨"pk", "sig1", ["X", "X"]⟩
def pXYZ : PeerInfo := ⟨"pk", "sig2", ["X", "Y", "Z"]⟩
example : mergePeer pX pXYZ = .error () := by decide +kernel      -- {X,X} vs {X,Y,Z}: sets nested, multisets not
example : mergePeer pXYZ pX = .error () := by decide +kernel
example : mergePeer ⟨"pk", "s1", ["X"]⟩ ⟨"pk", "s2", ["X", "Y"]⟩ = .ok ⟨"pk", "s2", ["X", "Y"]⟩ := by decide +kernel
example : mergePeer ⟨"pk", "s1", ["X", "Y"]⟩ ⟨"pk", "s2", ["Y", "X"]⟩ = .ok ⟨"pk", "s1", ["X", "Y"]⟩ := by decide +kernel

end AquaProps.C15
