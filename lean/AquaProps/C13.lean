import Aqua.Exec.Run
import AquaProps.C12
/-!
# C13 — streams hold exactly the merged appends; stream folds visit each value once

Data-structure level theorems about the Lean replica of `Stream` / `ValuesMatrix` /
`RecursiveStreamCursor` (value_types/stream/*.rs), for EVERY stream content.

Values appended (as new values) while a fold runs are handed out by the next round exactly once only under the
proviso that the stream has no empty "new" generation below the cursor (`C13_recursive_append_visited_partial`).
The cursor counts ALL generations while the slices skip EMPTY ones, so without the proviso (or when a value is
replayed into a previous/current generation below the cursor after the fold started) a value can be skipped:
`C13_cursor_can_skip_witness` exhibits such a state.
-/
namespace AquaProps.C13
open Aqua Aqua.Exec Aqua.Json Aqua.Data AquaProps

theorem modify_flatten_perm (l : List (List ValueAggregate)) (g : Nat) (v : ValueAggregate) (h : g < l.length) :
    List.Perm (l.modify g (· ++ [v])).flatten (v :: l.flatten) := by
  induction l generalizing g with
  | nil => simp at h
  | cons x xs ih =>
    cases g with
    | zero =>
      simp only [List.modify_zero_cons, List.flatten_cons]
      simp
    | succ j =>
      simp only [List.modify_succ_cons, List.flatten_cons]
      have hj : j < xs.length := by simpa using h
      exact (List.Perm.append_left x (ih j hj)).trans (List.perm_middle (l₁ := x) (a := v) (l₂ := xs.flatten))

theorem padTo_flatten (l : List (List ValueAggregate)) (n : Nat) : (ValuesMatrix.padTo l n).flatten = l.flatten := by
  unfold ValuesMatrix.padTo
  simp

theorem padTo_length (l : List (List ValueAggregate)) (n : Nat) (h : l.length ≤ n) : (ValuesMatrix.padTo l n).length = n := by
  unfold ValuesMatrix.padTo
  simp; omega

theorem matrix_add_perm {m m' : ValuesMatrix} {v : ValueAggregate} {g : Nat} (h : m.addValueToGeneration v g = .ok m') :
    List.Perm m'.all (v :: m.all) ∧ m'.size = m.size + 1 := by
  unfold ValuesMatrix.addValueToGeneration at h
  split at h
  · cases h
  · injection h with h; subst h
    refine ⟨?_, rfl⟩
    unfold ValuesMatrix.all
    simp only
    split
    · rename_i hge
      have hlen : g < (ValuesMatrix.padTo m.values (g + 1)).length := by
        rw [padTo_length _ _ (by omega)]; omega
      have := modify_flatten_perm (ValuesMatrix.padTo m.values (g + 1)) g v hlen
      rw [padTo_flatten] at this
      exact this
    · rename_i hlt
      exact modify_flatten_perm m.values g v (by omega)

theorem addToSource_perm {s s1 : Stream} {v : ValueAggregate} {g : Generation} (h : s.addToSource v g = .ok s1) :
    List.Perm s1.all (v :: s.all) ∧ s1.totalSize = s.totalSize + 1 := by
  unfold Stream.addToSource at h
  cases g with
  | previous i =>
    obtain ⟨m, hm, h2⟩ := Res.bind_eq_ok'.mp h
    cases h2
    obtain ⟨hp, hs⟩ := matrix_add_perm hm
    exact ⟨(hp.append_right _).append_right _, by simp only [Stream.totalSize, hs]; omega⟩
  | current i =>
    obtain ⟨m, hm, h2⟩ := Res.bind_eq_ok'.mp h
    cases h2
    obtain ⟨hp, hs⟩ := matrix_add_perm hm
    exact ⟨((hp.append_left _).trans List.perm_middle).append_right _, by simp only [Stream.totalSize, hs]; omega⟩
  | new =>
    obtain ⟨m, hm, h2⟩ := Res.bind_eq_ok'.mp h
    cases h2
    obtain ⟨hp, hs⟩ := matrix_add_perm (g := s.new.lastGenerationIdx) hm
    exact ⟨(hp.append_left _).trans List.perm_middle, by simp only [Stream.totalSize, hs]; omega⟩

theorem addToSource_not_error {s : Stream} {v : ValueAggregate} {g : Generation} {e : ExecErr} : s.addToSource v g ≠ .error e := by
  -- a matrix append succeeds or panics
  have aux : ∀ (m : ValuesMatrix) (i : Nat) (f : ValuesMatrix → ER Stream), (∀ m', f m' ≠ .error e) →
      (m.addValueToGeneration v i).bind f ≠ .error e := by
    intro m i f hf
    unfold ValuesMatrix.addValueToGeneration
    split
    · nofun
    · exact hf _
  cases g <;> exact aux _ _ _ fun _ => nofun

/-- An append adds exactly one value: if `add_value` does not hit the size limit, the stream afterwards
holds the value just appended plus exactly what it held before (as a multiset), whatever generation and
source the value went to. -/
theorem C13_add_value_adds_exactly_one (s s' : Stream) (v : ValueAggregate) (g : Generation) (h : s.addValue v g = .ok s') :
    List.Perm s'.all (v :: s.all) ∧ s'.totalSize = s.totalSize + 1 := by
  unfold Stream.addValue at h
  obtain ⟨s1, h1, h2⟩ := Res.bind_eq_ok'.mp h
  split at h2
  · cases h2
  · cases h2; exact addToSource_perm h1

/-- The size limit is exact: an append that does not panic is accepted iff the stream then holds fewer
than `STREAM_MAX_SIZE` values, and is otherwise rejected with `StreamSizeLimitExceeded`. -/
theorem C13_size_limit_exact (s : Stream) (v : ValueAggregate) (g : Generation) (hnp : ∀ p, s.addValue v g ≠ .panic p) :
    ((∃ s', s.addValue v g = .ok s') ↔ s.totalSize + 1 < Gen.streamMaxSize) ∧
    (¬ s.totalSize + 1 < Gen.streamMaxSize → s.addValue v g = .error (.uncatchable .streamSizeLimitExceeded)) := by
  unfold Stream.addValue at hnp ⊢
  cases h1 : s.addToSource v g with
  | ok s1 =>
    have hs := (addToSource_perm h1).2
    simp only [Res.bind]
    constructor
    · constructor
      · rintro ⟨s', h⟩
        split at h
        · cases h
        · rename_i hlt; omega
      · intro hlt
        exact ⟨s1, by rw [if_neg (by omega)]⟩
    · intro hge
      rw [if_pos (by omega)]; rfl
  | error e => exact absurd h1 addToSource_not_error
  | panic p => exact absurd (by simp [h1, Res.bind]) (hnp p)

/-- the limit the theorem speaks about is the one in the Rust source (regenerated on every run) -/
theorem C13_limit_is_1024 : Gen.streamMaxSize = 1024 := by decide

/-- A fold that starts sees every value exactly once: the generation slices handed out by
`met_fold_start`, concatenated, are exactly the stream's values in the stream's own order (previous,
current, new; by generation). -/
theorem C13_fold_start_visits_all (s : Stream) :
    (match (metFoldStart s).1 with | some slices => slices.flatten | none => []) = s.all := by
  unfold metFoldStart cursorState
  simp only
  have hfl : (s.sliceIter {}).flatten = s.all := by
    unfold Stream.sliceIter Stream.all ValuesMatrix.sliceIter ValuesMatrix.all
    simp [C12.filter_nonempty_flatten]
  by_cases he : (s.sliceIter {}).isEmpty
  · simp only [he, if_true]
    have : s.sliceIter {} = [] := List.isEmpty_iff.mp he
    rw [← hfl, this]; rfl
  · simp only [he]
    exact hfl

theorem drop_filter_all (l : List (List ValueAggregate)) : (l.filter (fun g => !g.isEmpty)).drop l.length = [] :=
  List.drop_eq_nil_of_le (List.length_filter_le _ _)

/-- The fold ends when its body appended nothing: right after `met_fold_start`, with the stream
untouched, `met_iteration_end` reports exhaustion. -/
theorem C13_cursor_exhausted_when_nothing_new (s : Stream) (slices : List (List ValueAggregate))
    (h : (metFoldStart s).1 = some slices) :
    (metIterationEnd (metFoldStart s).2.1 (metFoldStart s).2.2).1 = none := by
  unfold metFoldStart at h ⊢
  simp only at h ⊢
  cases hc : cursorState {} s with
  | none => simp [hc] at h
  | some sl =>
    simp only
    unfold metIterationEnd cursorState Stream.sliceIter Stream.cursor ValuesMatrix.sliceIter ValuesMatrix.generationsCount
      ValuesMatrix.addNewEmptyGeneration
    simp only [drop_filter_all]
    simp [List.length_filter_le]

/-- no empty generation among the new values -/
def NewDense (s : Stream) : Prop := ∀ g ∈ s.new.values, g ≠ []

/-- Values appended while the fold runs are handed out next (partial: needs `NewDense`): if, after
`met_fold_start`, the body appended the values `vs ≠ []` as new values (they all land in the fresh last
generation), the next round consists of exactly one slice holding exactly `vs`. -/
theorem C13_recursive_append_visited_partial (s : Stream) (vs : List ValueAggregate) (hvs : vs ≠ []) (hd : NewDense s) :
    let c : StreamCursor := s.cursor
    let s' : Stream := { s with new := { s.new with values := s.new.values ++ [vs] } }
    (metIterationEnd c s').1 = some [vs] := by
  intro c s'
  unfold metIterationEnd cursorState Stream.sliceIter ValuesMatrix.sliceIter
  have hfilter : s.new.values.filter (fun g => !g.isEmpty) = s.new.values := by
    apply List.filter_eq_self.mpr
    intro g hg
    have := hd g hg
    cases g with
    | nil => exact absurd rfl this
    | cons a as => rfl
  have hvne : (!vs.isEmpty) = true := by
    cases vs with
    | nil => exact absurd rfl hvs
    | cons a as => rfl
  have hnew : ((s.new.values ++ [vs]).filter (fun g => !g.isEmpty)).drop s.new.values.length = [vs] := by
    rw [List.filter_append, hfilter]
    simp [hvne]
  have hp : List.drop c.prevStart (List.filter (fun g => !g.isEmpty) s'.prev.values) = [] := drop_filter_all s.prev.values
  have hcu : List.drop c.curStart (List.filter (fun g => !g.isEmpty) s'.cur.values) = [] := drop_filter_all s.cur.values
  have hn : List.drop c.newStart (List.filter (fun g => !g.isEmpty) s'.new.values) = [vs] := hnew
  simp only [hp, hcu, hn, List.nil_append]
  rfl

/-! ### the proviso is needed: the cursor counts all generations, the slices skip the empty ones -/

section Witness
def va (n : Int) (pos : Nat) : ValueAggregate := ⟨.num n, { peerPk := "p" }, pos, .literal⟩

/-- previous data announced generations 0 and 1; only the generation-1 value has been replayed when the
fold starts (generation 0 is still empty) -/
def sBefore : Stream := { prev := { values := [[], [va 1 1]], size := 1 } }
/-- later the generation-0 value is replayed into the previous data's generation 0 -/
def sAfter : Stream := { prev := { values := [[va 0 0], [va 1 1]], size := 2 }, new := { values := [[]] } }

-- the fold starts: it is handed the value 1 only; the cursor now stands after BOTH previous generations
example : (metFoldStart sBefore).2.1 = ⟨2, 0, 0⟩ := by decide
-- when the value 0 turns up in generation 0 (below the cursor) the next round does not see it
theorem C13_cursor_can_skip_witness : (metIterationEnd ⟨2, 0, 0⟩ sAfter).1 = none := by decide
end Witness

/-- The full reading: along an honest history every stream instance's content is in bijection with the
appends replayed or performed so far, and every value is folded over exactly once per peer.  The
data-structure theorems above give: appends add exactly one value; a starting fold sees everything once;
recursive appends are seen once; the fold terminates when nothing new arrives.  Not proved: that the
executor never replays a value into a generation below a running fold's cursor (the witness above shows
the data structure alone does not prevent a skip) — this is what the history oracle (visit counts per
unique value, canon contents at the folding peer) and the lock-step correspondence check on generated
histories with recursive folds. -/
def C13_full_note : Unit := ()

/-- `ap` into a stream map is `ap` into the underlying stream of the key-value object (`StreamMap::insert`) -/
theorem addStreamMapValue_eq (c : Ctx) (k : Lens.StreamMapKey) (v : ValueAggregate) (name : String) (g : Generation) (pos : Nat) :
    c.addStreamMapValue k v name g pos =
      c.addStreamValue (ValueAggregate.new (fromKeyValue k v.result) v.tetraplet v.tracePos v.provenance) name g pos := rfl

theorem fromKeyValue_fields (k : Lens.StreamMapKey) (v : JVal) :
    fromKeyValue k v = .obj [("key", k.toJVal), ("value", v)] := by
  simp [fromKeyValue, JVal.mkObj, insertSorted, strLt, Gen.streamMapValueFieldName, Gen.streamMapKeyFieldName]

/-- a key in the form the executor produces it (`resolve_key_if_needed`: a string, an `i64`, or a `u64` beyond `i64`) -/
def KeyWf (k : Lens.StreamMapKey) : Prop := Lens.StreamMapKey.fromValue k.toJVal = some k

example : KeyWf (.str "k") := rfl
example : KeyWf (.i64 (-3)) := by unfold KeyWf; decide

/-- An accepted `ap` into a map adds exactly one `{key, value}` entry: the stream under the map afterwards holds
that one pair plus exactly what it held before (as a multiset); the pair is the object with the two members `key`
(the typed key as JSON) and `value` (the value's JSON), carrying tetraplet, position and provenance of the value;
and a later `canon` files the pair under exactly this key with exactly this value (`from_kvpair_owned`,
`get_value_from_obj`). -/
theorem C13_ap_map_adds_exactly_one_pair (s s' : Stream) (k : Lens.StreamMapKey) (v : ValueAggregate) (g : Generation)
    (h : s.addValue (ValueAggregate.new (fromKeyValue k v.result) v.tetraplet v.tracePos v.provenance) g = .ok s') :
    List.Perm s'.all ((ValueAggregate.new (fromKeyValue k v.result) v.tetraplet v.tracePos v.provenance) :: s.all) ∧
    s'.totalSize = s.totalSize + 1 ∧
    (ValueAggregate.new (fromKeyValue k v.result) v.tetraplet v.tracePos v.provenance).result = .obj [("key", k.toJVal), ("value", v.result)] ∧
    (KeyWf k → Lens.StreamMapKey.fromKvpairOwned (fromKeyValue k v.result) = some k) ∧
    Lens.getValueFromObj (fromKeyValue k v.result) = .ok v.result := by
  obtain ⟨h1, h2⟩ := C13_add_value_adds_exactly_one s s' _ g h
  refine ⟨h1, h2, ?_, ?_, ?_⟩
  · cases hp : v.provenance <;> simp [ValueAggregate.new, fromKeyValue_fields]
  · intro hk
    rw [fromKeyValue_fields]
    simp [Lens.StreamMapKey.fromKvpairOwned, JVal.getField, Lens.keyFieldName, Gen.streamMapKeyFieldName]
    exact hk
  · rw [fromKeyValue_fields]
    simp [Lens.getValueFromObj, JVal.getField, Lens.valueFieldName, Gen.streamMapValueFieldName]

end AquaProps.C13
