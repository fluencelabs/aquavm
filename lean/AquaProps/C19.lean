import AquaProps.Lemmas.Grow
import Aqua.Exec.Run
/-!
# C19 — calls run only where addressed; the particle is never forwarded to the current peer

Statements are about `Aqua.Exec.runExec` for EVERY script, fuel, data pair, parameters and call results.
-/
namespace AquaProps.C19
open Aqua Aqua.Exec Aqua.Air AquaProps

abbrev finalCtx (env : Env) (fuel : Nat) (script : Instr) (prev cur : DataIn) (p : RunParams)
    (results : List (String × CallServiceResult)) : Ctx := (runExec env fuel script prev cur p results).2

/-- Requests only for calls addressed to the current peer: every request handed to the host in a
run was issued for a call whose resolved peer is the current peer. -/
theorem C19_local_only (env : Env) (fuel : Nat) (script : Instr) (prev cur : DataIn) (p : RunParams)
    (results : List (String × CallServiceResult)) :
    ∀ x ∈ (finalCtx env fuel script prev cur p results).callRequests, x.2.forPeer = p.currentPeerId := by
  obtain ⟨rs, hr, _, hf⟩ := (exec_grow env fuel script (initCtx prev cur p results)).reqs
  intro x hx
  rw [show (finalCtx env fuel script prev cur p results).callRequests = numbered _ rs from hr] at hx
  exact hf x.2 (mem_numbered hx).2.2

/-- The current peer is never among the next peers collected by a run. -/
theorem C19_next_peers_not_self (env : Env) (fuel : Nat) (script : Instr) (prev cur : DataIn) (p : RunParams)
    (results : List (String × CallServiceResult)) :
    ∀ q ∈ (finalCtx env fuel script prev cur p results).nextPeerPks, q ≠ p.currentPeerId := by
  obtain ⟨ps, hp, hn⟩ := (exec_grow env fuel script (initCtx prev cur p results)).next
  intro q hq
  rw [show (finalCtx env fuel script prev cur p results).nextPeerPks = ps from hp] at hq
  exact hn q hq

/-- `dedup` of farewell_step/outcome.rs is a `HashSet` round trip: the outcome's list is *some*
duplicate-free list with the same members (the order is the hash map's).  `IsDedupOf out l` is that
contract; `dedupModel` is one function satisfying it. -/
def IsDedupOf (out l : List String) : Prop := out.Nodup ∧ ∀ x, x ∈ out ↔ x ∈ l

def dedupModel : List String → List String
  | [] => []
  | x :: xs => if x ∈ dedupModel xs then dedupModel xs else x :: dedupModel xs

theorem dedupModel_spec (l : List String) : IsDedupOf (dedupModel l) l := by
  induction l with
  | nil => exact ⟨List.nodup_nil, fun x => Iff.rfl⟩
  | cons a as ih =>
    obtain ⟨hn, hm⟩ := ih
    unfold dedupModel
    split <;> rename_i h
    · exact ⟨hn, fun x => by rw [List.mem_cons, ← hm]; exact ⟨.inr, fun hx => hx.elim (· ▸ h) id⟩⟩
    · exact ⟨List.nodup_cons.mpr ⟨h, hn⟩, fun x => by rw [List.mem_cons, List.mem_cons, hm]⟩

/-- The outcome's next-peer list has no duplicates and never names the current peer, for every
list satisfying the `dedup` contract. -/
theorem C19_outcome_next_peers (env : Env) (fuel : Nat) (script : Instr) (prev cur : DataIn) (p : RunParams)
    (results : List (String × CallServiceResult)) (out : List String)
    (hout : IsDedupOf out (finalCtx env fuel script prev cur p results).nextPeerPks) :
    out.Nodup ∧ ∀ q ∈ out, q ≠ p.currentPeerId :=
  ⟨hout.1, fun q hq => C19_next_peers_not_self env fuel script prev cur p results q ((hout.2 q).mp hq)⟩

/-- the peer ids never change during execution -/
theorem C19_peer_ids_stable (env : Env) (fuel : Nat) (script : Instr) (c : Ctx) :
    (exec env fuel script c).2.currentPeerId = c.currentPeerId ∧ (exec env fuel script c).2.initPeerId = c.initPeerId :=
  ⟨(exec_grow env fuel script c).me, (exec_grow env fuel script c).init⟩

/-! ## forwarding: whenever a run marks a call or a canon as sent to another peer, that peer is named

These are the only two places where the executor creates a "sent by me" entry (`updRemoteCall` is the
context update of `handle_remote_call`; the canon case is the `.empty` branch of `execCanon`, primitive
`canonRemote` of `ExecPrims`).  Re-emitting a request found in the merged data (`pushRequest`,
`canonPushRequest`) creates nothing new and names no peer. -/

/-- A call forwarded to another peer names that peer: the state pushed is `RequestSentBy(current peer)`
and the call's resolved peer is appended to the next peers, in one step. -/
theorem C19_remote_call_forwarded (t : Tetraplet) (c : Ctx) :
    (updRemoteCall t c).nextPeerPks = c.nextPeerPks ++ [t.peerPk] ∧
    (updRemoteCall t c).th.keeper.resultTrace =
      c.th.keeper.resultTrace ++ [.call (.requestSentBy (.peerId c.currentPeerId))] ∧
    (updRemoteCall t c).callRequests = c.callRequests := ⟨rfl, rfl, rfl⟩

/-- the same for every whole run: every peer appended to the next peers differs from the current peer, and
canon instructions addressed elsewhere append their target (`Grow` is preserved by the canon primitives) -/
theorem C19_canon_and_calls_never_forward_to_self (env : Env) (fuel : Nat) (script : Instr) (c : Ctx) :
    ∃ ps, (exec env fuel script c).2.nextPeerPks = c.nextPeerPks ++ ps ∧ ∀ p ∈ ps, p ≠ c.currentPeerId :=
  (exec_grow env fuel script c).next

end AquaProps.C19
