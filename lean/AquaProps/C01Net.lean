import AquaProps.Lemmas.NetLift
import AquaProps.C01
/-!
# C01 along whole histories (`Aqua.Net`)

The panic-site theorem holds for arbitrary inputs of one run; stated here for every run honest hosts ever make:
whatever the script, the services and the schedule, a run of the execution-stage model (with the farewell
compaction) can only panic at one of the listed sites.
-/
namespace AquaProps.C01
open Aqua Aqua.Exec Aqua.Air Aqua.Net AquaProps AquaProps.NetLift

/-- Along any honest history a run of the model panics only at a listed site. -/
theorem C01_network_panic_sites_partial (env : Env) (svc : Services) (P : Particle) (st : NetSt)
    (h : Reachable env svc P st) : ∀ r ∈ st.runs, ∀ s, r.res = .panic s → s ∈ modelledExecPanicSites := by
  intro r hr s hs
  rw [((reachable_inv h).genuine r hr).res] at hs
  exact C01_exec_farewell_panic_sites_partial env r.fuel P.script r.prev r.cur (params P r) r.results s hs

/-- a run that panics leaves the host's state as it was: nothing is stored, requested or sent -/
theorem C01_network_panic_is_inert (r : Run) (s : String) (h : r.res = .panic s) :
    r.newData = r.prev ∧ r.requests = [] ∧ r.nextPeers = [] := by
  unfold Run.newData Run.requests Run.nextPeers accepted
  rw [h]; simp

end AquaProps.C01
