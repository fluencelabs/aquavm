import AquaProps.Lemmas.ExecRel
import AquaProps.Lemmas.Pres
import AquaProps.C06
import AquaProps.C19
import Aqua.Gen.HashIterSites
import AquaProps.Lemmas.JsonObj
/-!
# C20 — execution is deterministic

The executor model (`Aqua.Exec.runExec`) is a *function* of the inputs of a run; what could make two
runs of the real interpreter differ are the places where it walks a hash-ordered collection
(`HashMap`/`HashSet`).  Those places are inventoried from the Rust sources on every run
(`Aqua.Gen.hashIterSites`, generated by tools/gen_hashiter.py) and each must carry a class saying why
the order cannot reach the outcome (`C20_sites_classified` — a new, unclassified site breaks this
theorem).  For the classes that reach the *encoded* outcome (maps serialised in hash order, the
next-peer list built from a set) the theorems below show that what a host decodes is the same for
EVERY order: lookups in the request map and in the CID stores, and membership in the next-peer list.
-/
namespace AquaProps.C20
open Aqua Aqua.Exec Aqua.Air Aqua.Data AquaProps

def allowedClasses : List String :=
  ["order-irrelevant", "set-output", "canonicalised", "canonicalised-by-fix", "error-path-only", "display-only", "not-hash",
   "finding:canon-map-key-collision"]

/-- every hash-iteration site found in the sources has a class (regenerated table; a new site without a
class makes this fail) -/
theorem C20_sites_classified : ∀ s ∈ Gen.hashIterSites, s.2 ∈ allowedClasses := by decide +kernel

/-- at most one site may carry the finding class; since the repair of `CanonStreamMap::as_jvalue` (fix: 194b872 in
/repo: the key groups are taken in first-occurrence order of their keys instead of hash order) there is none -/
theorem C20_single_known_violating_site :
    (Gen.hashIterSites.filter (fun s => s.2 == "finding:canon-map-key-collision")).length ≤ 1 := by decide +kernel

def lookupBy {κ β : Type} [BEq κ] (l : List (κ × β)) (k : κ) : Option β := (l.find? (fun x => x.1 == k)).map (·.2)

theorem lookupBy_perm {κ β : Type} [BEq κ] [LawfulBEq κ] {l₁ l₂ : List (κ × β)} (hp : l₁.Perm l₂)
    (hnd : (l₁.map (·.1)).Nodup) (k : κ) : lookupBy l₁ k = lookupBy l₂ k := by
  induction hp with
  | nil => rfl
  | @cons x la lb _ ih =>
    have hnd' : (la.map (fun y => y.1)).Nodup := by
      rw [List.map_cons, List.nodup_cons] at hnd; exact hnd.2
    unfold lookupBy at *
    simp only [List.find?_cons]
    split
    · rfl
    · exact ih hnd'
  | swap x y l =>
    unfold lookupBy
    simp only [List.find?_cons]
    by_cases hx : (x.1 == k) = true <;> by_cases hy : (y.1 == k) = true
    · exfalso
      have h1 : x.1 = k := by simpa using hx
      have h2 : y.1 = k := by simpa using hy
      simp only [List.map_cons, List.nodup_cons, List.mem_cons] at hnd
      exact hnd.1 (Or.inl (by rw [h1, h2]))
    · simp [hx, hy]
    · simp [hx, hy]
    · simp [hx, hy]
  | trans p1 _ ih1 ih2 =>
    have hnd2 := (List.Perm.nodup_iff (p1.map (·.1))).mp hnd
    exact (ih1 hnd).trans (ih2 hnd2)

abbrev finalCtx (env : Env) (fuel : Nat) (script : Instr) (prev cur : DataIn) (p : RunParams)
    (results : List (String × CallServiceResult)) : Ctx := (runExec env fuel script prev cur p results).2

/-- Call requests: the request map of a run has pairwise distinct ids (C06), so whatever order the
`HashMap` is serialised in, the host finds the same request under every id. -/
theorem C20_requests_order_irrelevant (env : Env) (fuel : Nat) (script : Instr) (prev cur : DataIn) (p : RunParams)
    (results : List (String × CallServiceResult)) (encoded : List (Nat × CallRequest))
    (hperm : (finalCtx env fuel script prev cur p results).callRequests.Perm encoded) (id : Nat) :
    lookupBy encoded id = lookupBy (finalCtx env fuel script prev cur p results).callRequests id := by
  have hnd : ((finalCtx env fuel script prev cur p results).callRequests.map (·.1)).Nodup := by
    have := (AquaProps.C06.C06_ids_fresh env fuel script prev cur p results).2.1
    exact this.imp (fun h => Nat.ne_of_lt h)
  exact (lookupBy_perm hperm hnd id).symm

/-- Next peers: any two duplicate-free lists built from the collected peers (the `HashSet` round trip
of the farewell step, in whatever order) have the same members. -/
theorem C20_next_peers_same_set (collected out₁ out₂ : List String)
    (h1 : AquaProps.C19.IsDedupOf out₁ collected) (h2 : AquaProps.C19.IsDedupOf out₂ collected) :
    (∀ x, x ∈ out₁ ↔ x ∈ out₂) ∧ out₁.length = out₂.length := by
  have hm : ∀ x, x ∈ out₁ ↔ x ∈ out₂ := fun x => (h1.2 x).trans (h2.2 x).symm
  refine ⟨hm, ?_⟩
  have p : out₁.Perm out₂ := (List.perm_ext_iff_of_nodup h1.1 h2.1).mpr hm
  exact p.length_eq

def KeysNodup {β} (l : List (String × β)) : Prop := (l.map (·.1)).Nodup

theorem keysNodup_upsert {β : Type} (l : List (String × β)) (k : String) (v : β) (h : KeysNodup l) : KeysNodup (upsert l k v) := by
  show (keys (upsert l k v)).Nodup
  rw [keys_upsert]
  split
  · exact h
  · rename_i hn
    refine List.nodup_append.mpr ⟨h, by simp, fun a ha b hb hab => hn ?_⟩
    obtain ⟨x, hx, rfl⟩ := List.mem_map.mp ha
    exact List.any_eq_true.mpr ⟨x, hx, by simpa [hab] using hb⟩

structure StoresOK (s : CidState) : Prop where
  values : KeysNodup s.values
  tetraplets : KeysNodup s.tetraplets
  serviceResults : KeysNodup s.serviceResults
  canonElements : KeysNodup s.canonElements
  canonResults : KeysNodup s.canonResults

theorem storesOK_track (env : Env) (s : CidState) (v : Json.JVal) (t : Tetraplet) (ah : String) (h : StoresOK s) :
    StoresOK (trackServiceResult env s v t ah).2 := by
  unfold trackServiceResult trackValue trackTetraplet
  exact ⟨keysNodup_upsert _ _ _ h.values, keysNodup_upsert _ _ _ h.tetraplets, keysNodup_upsert _ _ _ h.serviceResults,
    h.canonElements, h.canonResults⟩

theorem storesOK_trackCanonValue (env : Env) (s : CidState) (v : ValueAggregate) (h : StoresOK s) :
    StoresOK (trackCanonValue env s v).2 := by
  unfold trackCanonValue trackValue trackTetraplet
  exact ⟨keysNodup_upsert _ _ _ h.values, keysNodup_upsert _ _ _ h.tetraplets, h.serviceResults,
    keysNodup_upsert _ _ _ h.canonElements, h.canonResults⟩

theorem storesOK_foldCanon (env : Env) (vs : List ValueAggregate) (acc : List Data.Cid × CidState) (h : StoresOK acc.2) :
    StoresOK (vs.foldl (fun (acc : List Data.Cid × CidState) v => let (cid, s') := trackCanonValue env acc.2 v; (acc.1 ++ [cid], s')) acc).2 := by
  induction vs generalizing acc with
  | nil => exact h
  | cons v rest ih =>
    simp only [List.foldl_cons]
    exact ih _ (storesOK_trackCanonValue env acc.2 v h)

theorem storesOK_trackCanonResult (env : Env) (s : CidState) (cs : CanonStream) (h : StoresOK s) :
    StoresOK (trackCanonResult env s cs).2 := by
  unfold trackCanonResult trackTetraplet
  have h1 := storesOK_foldCanon env cs.values ([], s) h
  exact ⟨h1.values, keysNodup_upsert _ _ _ h1.tetraplets, h1.serviceResults, h1.canonElements, keysNodup_upsert _ _ _ h1.canonResults⟩

/-- the stores' keys stay distinct, as an invariant of the context (`Lemmas/Pres.lean`) -/
abbrev KeepsStores : Ctx → Ctx → Prop := Keeps fun c => StoresOK c.cid

theorem keeps_of_cid {c c' : Ctx} (h : c'.cid = c.cid) : KeepsStores c c' := fun (hs : StoresOK c.cid) => show StoresOK c'.cid from h ▸ hs

/-- only tracking a service result or a canon result writes to the stores -/
theorem keeps_prims : ExecPrims KeepsStores where
  pre := keeps_preorder _
  ctl := fun _ _ h => keeps_of_cid h.cid
  thCallStart := fun _ _ _ _ => id
  thParStart := fun _ _ _ => id
  thParEnd := fun _ _ _ _ => id
  pushRequest := fun _ _ => id
  failedService := by
    intro env t ah sr c hs
    simp only [updFailedService, recordCallCid_eq]
    exact storesOK_track env c.cid _ t ah hs
  serviceResult := by
    intro env result t ah out c c' h hs
    obtain ⟨cid, rfl⟩ | ⟨cid, cs, c0, cr, hc, h0, _, rfl⟩ := updServiceResult_eq_ok h
    · exact hs
    · have := storesOK_track env c.cid result t ah hs
      rw [hc] at this
      simpa only [recordCallCid_eq, h0.cid] using this
  prevFailed := fun _ _ _ => keeps_of_cid (by simp only [updPrevFailed, recordCallCid_eq])
  dropResult := fun _ _ => id
  prevExecutedBind := fun _ _ _ _ _ _ _ _ _ h => keeps_of_cid (sameButStreams_populateFromData h).cid
  prevExecuted := by
    intro t value c
    cases value <;> exact keeps_of_cid (by simp only [updPrevExecuted, recordCallCid_eq])
  issue := by
    intro t args c c' _ h
    obtain ⟨vs, tss, _, rfl⟩ := issueRequest_eq_ok h
    exact id
  remote := fun _ _ _ => id
  streamUpd := fun _ _ h => keeps_of_cid h.cid
  thApStart := fun _ _ _ _ => id
  pushAp := fun _ => id
  thCanonStart := fun _ _ _ _ => id
  canonTrack := fun env _ _ _ _ c => storesOK_trackCanonResult env c.cid _
  canonFinish := by
    intro name cs cid reg c c' h
    obtain ⟨sc, _, rfl⟩ := updCanonFinish_eq_ok h
    exact keeps_of_cid (by simp only [recordCanonCid_eq])
  canonPushRequest := fun _ _ => id
  canonRemote := fun _ _ _ => id
  foldCount := fun _ => id
  thFoldOp := fun _ _ _ => id
  scopeEnd := by
    intro name c c' h
    obtain ⟨_, _, _, _, _, _, _, rfl⟩ := streamScopeEnd_eq_ok h
    exact id

/-- CID stores: if the stores a run starts from have distinct keys (they are decoded from maps), so
have the stores it ends with — for every script, fuel and context; hence any serialisation order of the
final stores decodes to the same lookups (`lookupBy_perm`). -/
theorem C20_store_keys_distinct (env : Env) (fuel : Nat) (script : Instr) (c : Ctx) (h : StoresOK c.cid) :
    StoresOK (exec env fuel script c).2.cid :=
  exec_rel keeps_prims env fuel script c h

theorem C20_stores_order_irrelevant (env : Env) (fuel : Nat) (script : Instr) (c : Ctx) (h : StoresOK c.cid)
    (encoded : List (String × String)) (hperm : (exec env fuel script c).2.cid.values.Perm encoded) (cid : String) :
    lookupBy encoded cid = lookupBy (exec env fuel script c).2.cid.values cid :=
  (lookupBy_perm hperm (C20_store_keys_distinct env fuel script c h).values cid).symm

/-- the execution stage itself reads no hash order: it is a function of its inputs, and the current
data's request counter is not even read -/
theorem C20_exec_function_of_inputs (env : Env) (fuel : Nat) (script : Instr) (prev cur : DataIn) (p : RunParams)
    (results : List (String × CallServiceResult)) (n : Nat) :
    runExec env fuel script prev { cur with lcid := n } p results = runExec env fuel script prev cur p results := rfl

example : StoresOK ({ values := [("a", "1"), ("b", "2")] } : CidState) :=
  ⟨by simp [KeysNodup], by simp [KeysNodup], by simp [KeysNodup], by simp [KeysNodup], by simp [KeysNodup]⟩
example : lookupBy [(2, "x"), (1, "y")] 1 = lookupBy [(1, "y"), (2, "x")] 1 := by decide

open Aqua.Json AquaProps.JsonObj

/-- the (rendered key, values) pairs `as_jvalue` collects into the JSON object, for a given iteration order of the map -/
def canonMapPairs (m : List (Lens.StreamMapKey × CanonStream)) : List (String × JVal) :=
  m.map fun x => (x.1.toKey, JVal.arr (x.2.values.map (·.result)))

theorem asJvalue_eq (vals : List ValueAggregate) (m : List (Lens.StreamMapKey × CanonStream)) (t : Tetraplet) :
    (⟨vals, m, t⟩ : CanonStreamMapAgg).asJvalue = JVal.mkObj (canonMapPairs m) := by
  simp [CanonStreamMapAgg.asJvalue, CanonStreamMapAgg.toLens, Lens.CanonStreamMap.asJvalue, canonMapPairs, List.map_map, Function.comp_def]

/-- No order dependence without a collision: if the keys of a canon map render to pairwise different texts,
the JSON object `as_jvalue` builds is the same for every iteration order of the hash map. -/
theorem C20_canon_map_json_order_irrelevant (vals : List ValueAggregate) (t : Tetraplet)
    (m₁ m₂ : List (Lens.StreamMapKey × CanonStream)) (hp : m₁.Perm m₂)
    (hn : (m₁.map fun x => x.1.toKey).Nodup) :
    (⟨vals, m₁, t⟩ : CanonStreamMapAgg).asJvalue = (⟨vals, m₂, t⟩ : CanonStreamMapAgg).asJvalue := by
  rw [asJvalue_eq, asJvalue_eq, mkObj_eq_iff]
  intro k
  apply finalMap_perm (hp.map _)
  simpa [canonMapPairs, List.map_map, Function.comp_def] using hn

/-- The collision condition, exactly: two different keys that render to the same text (`"1"` and `1`) and hold
different value lists — then the two iteration orders of these two entries give two different JSON objects (the
entry iterated last wins).  This is why iterating the `HashMap` there was a violation (the former finding
`canon-map-key-collision`); the repaired code iterates in first-occurrence order of the keys, which is the order of the
model's association list. -/
theorem C20_canon_map_json_collision_order_dependent (vals : List ValueAggregate) (t : Tetraplet)
    (k₁ k₂ : Lens.StreamMapKey) (cs₁ cs₂ : CanonStream) (hk : k₁.toKey = k₂.toKey)
    (hv : cs₁.values.map (·.result) ≠ cs₂.values.map (·.result)) :
    (⟨vals, [(k₁, cs₁), (k₂, cs₂)], t⟩ : CanonStreamMapAgg).asJvalue ≠ (⟨vals, [(k₂, cs₂), (k₁, cs₁)], t⟩ : CanonStreamMapAgg).asJvalue := by
  rw [asJvalue_eq, asJvalue_eq]
  intro h
  have := (mkObj_eq_iff _ _).mp h k₁.toKey
  simp [finalMap, canonMapPairs, hk] at this
  exact hv this.symm

example : (Lens.StreamMapKey.str "1").toKey = (Lens.StreamMapKey.i64 1).toKey := by decide

end AquaProps.C20
