import Aqua.Codec.Sede
import AquaProps.Lemmas.VarintU32
import AquaProps.Lemmas.MsgPack
import AquaProps.Lemmas.Sede
import AquaProps.Lemmas.JArg
/-!
# C27 — data and call encodings round-trip

Model: `Aqua.Codec.Varint` (unsigned-varint 0.8.0), `Aqua.Codec.MsgPack` (value algebra, `rmp` encoder, full decoder),
`Aqua.Codec.Sede` (multiformat wrapper, what `serde` derive + `rmp_serde` read and write for the envelope, `Versions`,
call-request map, call-result map, call arguments, tetraplets).  Field names, codec numbers and the format of every
representation are regenerated from the repository (`Aqua.Gen.Codec`).

Everything below is proved for ALL values of the modelled types that satisfy the stated size bounds (MessagePack
cannot express lengths ≥ 2^32, integers outside `[-2^63, 2^64)`; `rmp_serde` refuses nesting ≥ 1024).

Not modelled (trusted base, checked only by the correspondence run): the rkyv archive of `InterpreterData`
(`C27_data_roundtrip_partial` takes its round trip as a hypothesis), `Display`/`FromStr` of `semver::Version`
(the envelope theorems take version *texts* that parse), `f64` ↔ decimal text.
-/
namespace AquaProps.C27
open Aqua Aqua.Sede Aqua.MsgPack
open AquaProps.Lemmas.MsgPack (WF WFList WFPairs)
open AquaProps.Lemmas.JArg (JWF JWFList JWFPairs)
open AquaProps.Lemmas.Sede

/-! ## the tables read from the repository say what the model assumes (the build breaks otherwise) -/

example : Gen.callRequestsFormat = "MsgPackMultiformat" ∧ Gen.callResultsFormat = "MsgPackMultiformat" := by decide
example : Gen.callArgumentsFormat = "MsgPackFormat" ∧ Gen.tetrapletsFormat = "MsgPackFormat" ∧ Gen.envelopeFormat = "MsgPackFormat" := by decide
example : Gen.rmpNamed = true ∧ Gen.envelopeNamed = true ∧ Gen.serializedBlobsAreBytes = true := by decide
example : Gen.envelopeFields = ["inner_data"] ∧ Gen.envelopeFlattened = ["versions"] ∧ Gen.envelopeBytesFields = ["inner_data"] := by decide
example : Gen.versionsFields.length = 2 ∧ Gen.callRequestParamsFields.length = 4 ∧ Gen.callServiceResultFields.length = 2 ∧
    Gen.securityTetrapletFields.length = 4 := by decide
example : Gen.callRequestParamsFieldBytes = Gen.callRequestParamsFields.map strBytes ∧
    Gen.callServiceResultFieldBytes = Gen.callServiceResultFields.map strBytes ∧
    Gen.securityTetrapletFieldBytes = Gen.securityTetrapletFields.map strBytes ∧
    Gen.versionsFieldBytes = Gen.versionsFields.map strBytes ∧ Gen.envelopeFieldBytes = Gen.envelopeFields.map strBytes := by decide +kernel
example : Gen.multiformatMsgpack < 2 ^ 32 ∧ Gen.multiformatJson < 2 ^ 32 ∧ Gen.multiformatMsgpack ≠ Gen.multiformatJson := by decide

/-- Every `u32` decodes to itself and the decoder stops exactly behind it. -/
theorem C27_varint_roundtrip (n : Nat) (hn : n < 2 ^ 32) (rest : Bytes) :
    Varint.decodeU32 (Varint.encodeU32 n ++ rest) = .ok (n, rest) :=
  AquaProps.Lemmas.Varint.encodeU32_roundtrip n hn rest

/-- Continuation bytes below the limit are stepped over. -/
theorem decodeGo_skip (maxBytes : Nat) (pre : Bytes) : ∀ (i acc : Nat) (rest : Bytes), (∀ b ∈ pre, b.toNat ≥ 128) →
    i + pre.length ≤ maxBytes →
    ∃ acc', Varint.decodeGo maxBytes i acc (pre ++ rest) = Varint.decodeGo maxBytes (i + pre.length) acc' rest := by
  induction pre with
  | nil => exact fun i acc rest _ _ => ⟨acc, rfl⟩
  | cons b bs ih =>
    intro i acc rest hall hlen
    have h1 : ¬ (b.toNat < 128) := Nat.not_lt.mpr (hall b (by simp))
    have h2 : ¬ (i = maxBytes) := by simp at hlen; omega
    simp only [List.cons_append, Varint.decodeGo, h1, h2, if_false, List.length_cons, ← Nat.add_assoc, Nat.add_right_comm i _ 1]
    exact ih (i + 1) _ rest (fun x hx => hall x (List.mem_cons_of_mem _ hx)) (by simp at hlen; omega)

/-- Minimality is enforced: a multi-byte varint ending in a zero byte is rejected. -/
theorem C27_varint_not_minimal_rejected (pre rest : Bytes) (hall : ∀ b ∈ pre, b.toNat ≥ 128)
    (h1 : 1 ≤ pre.length) (h4 : pre.length ≤ 4) :
    Varint.decodeU32 (pre ++ 0 :: rest) = .error .notMinimal := by
  obtain ⟨acc, e⟩ := decodeGo_skip 4 pre 0 0 (0 :: rest) hall (by omega)
  rw [Varint.decodeU32, e]
  simpa [Varint.decodeGo] using List.ne_nil_of_length_pos h1

/-- Five continuation bytes are one too many for a `u32`. -/
theorem C27_varint_overflow_rejected (pre rest : Bytes) (hall : ∀ b ∈ pre, b.toNat ≥ 128) (h5 : pre.length = 5) :
    Varint.decodeU32 (pre ++ rest) = .error .overflow := by
  match pre, h5 with
  | [a, b, c, d, e], _ =>
    -- four bytes are stepped over; the fifth is a continuation byte at the limit
    obtain ⟨acc, h⟩ := decodeGo_skip 4 [a, b, c, d] 0 0 (e :: rest) (fun x hx => hall x (List.mem_append_left [e] hx)) (by simp)
    have he : ¬ (e.toNat < 128) := Nat.not_lt.mpr (hall e (by simp))
    exact h.trans (by simp [Varint.decodeGo, he])

/-- What the decoder does NOT enforce (model of the crate as it is; reported as a finding of the run): the fifth
byte is shifted by 28 bits in `u32` arithmetic, bits above bit 31 are dropped, so a number beyond `u32` whose low 32
bits are the msgpack codec is read as the msgpack codec. -/
example : Varint.decodeU32 [0x81, 0x84, 0x80, 0x80, 0x10] = .ok (Gen.multiformatMsgpack, []) := by rfl
example : Varint.encodeU32 Gen.multiformatMsgpack = [0x81, 0x04] := by decide
example : Varint.decodeU32 [0x81, 0x84, 0x00] = .error .notMinimal := by rfl

/-- Decode ∘ encode = id for every well-formed value of the algebra, and the decoder stops exactly at the end
of the encoding (prefix-freeness: encodings can be sequenced and trailing bytes are handed back untouched). -/
theorem C27_msgpack_roundtrip (v : Val) (hv : WF v) (rest : Bytes) :
    decodeAll (encode v ++ rest) = some (v, rest) :=
  AquaProps.Lemmas.MsgPack.decodeAll_encode v hv rest

/-- the same with explicit fuel, for any amount above the value's need -/
theorem C27_msgpack_roundtrip_fuel (v : Val) (hv : WF v) (rest : Bytes) (fuel : Nat)
    (hf : AquaProps.Lemmas.MsgPack.sz v ≤ fuel) : decode fuel (encode v ++ rest) = some (v, rest) :=
  AquaProps.Lemmas.MsgPack.decode_encode v hv rest fuel hf

example : WF (.map [(.str [0x61], .arr [.int (-33), .int 65536, .nil, .bool true, .f64 0, .bin [1, 2], .ext 7 [9]])]) := by
  simp [WF, WFPairs, WFList]
example : encode (.map [(.str [0x61], .arr [.int (-33), .int 65536, .bin [1, 2]])]) =
    [0x81, 0xa1, 0x61, 0x93, 0xd0, 0xdf, 0xce, 0x00, 0x01, 0x00, 0x00, 0xc4, 0x02, 0x01, 0x02] := by decide

/-- A payload written under a codec is read back under the same codec: the payload reader sees exactly the payload. -/
theorem C27_multiformat_roundtrip {α : Type} (codec : Nat) (hc : codec < 2 ^ 32) (fromSlice : Bytes → Option α)
    (payload : Bytes) (x : α) (hx : fromSlice payload = some x) :
    decodeMultiformat codec fromSlice (encodeMultiformat codec payload) = .ok x := by
  rw [decodeMultiformat_encodeMultiformat codec hc, hx]

/-- Another codec is rejected, whatever the payload and whatever the payload reader would make of it. -/
theorem C27_wrong_codec_rejected {α : Type} (codec expected : Nat) (hc : codec < 2 ^ 32) (hne : codec ≠ expected)
    (fromSlice : Bytes → Option α) (payload : Bytes) :
    decodeMultiformat expected fromSlice (encodeMultiformat codec payload) = .error (.codec codec) :=
  decodeMultiformat_other_codec codec expected hc hne fromSlice payload

example : decodeMultiformat Gen.multiformatMsgpack (fun b => some b) (encodeMultiformat Gen.multiformatJson [0x80]) =
    .error (.codec 0x0200) := by rfl

/-- size bounds of MessagePack and distinct ids (a `HashMap` has no duplicate keys) -/
def CallRequestsWF (m : CallRequests) : Prop :=
  m.length < 2 ^ 32 ∧ (m.map Prod.fst).Nodup ∧
  ∀ e ∈ m, e.1 < 2 ^ 32 ∧ (strBytes e.2.serviceId).length < 2 ^ 32 ∧ (strBytes e.2.functionName).length < 2 ^ 32 ∧
    e.2.arguments.length < 2 ^ 32 ∧ e.2.tetraplets.length < 2 ^ 32

/-- Call-request maps round-trip: for every map (given in any iteration order `m`, ids distinct), the bytes the
interpreter hands to the host decode to exactly that map. -/
theorem C27_call_requests_roundtrip (m : CallRequests) (h : CallRequestsWF m) :
    decodeCallRequests (encodeCallRequests m) = .ok m := by
  refine hashMap_roundtrip _ (by decide) (fun (id : Nat) => Val.int id) CallRequestParams.toVal deU32 deCallRequestParams 1
    (by decide) m h.1 h.2.1 (fun e he => ?_) (fun e he => ?_)
  · have h1 : ((e.1 : Nat) : Int) < 4294967296 := by have := (h.2.2 e he).1; omega
    exact ⟨by simp only [WF]; omega, Nat.zero_le 1, by simp [deU32, h1]⟩
  · obtain ⟨_, h2, h3, h4, h5⟩ := h.2.2 e he
    exact req_layout e.2 h2 h3 h4 h5

/-- lookup form (independent of iteration order) -/
theorem C27_call_requests_lookup (m : CallRequests) (h : CallRequestsWF m) (id : Nat) :
    (decodeCallRequests (encodeCallRequests m)).toOption.bind (fun d => d.lookup id) = m.lookup id := by
  rw [C27_call_requests_roundtrip m h]; rfl

/-- Call requests under another codec are not decoded. -/
theorem C27_call_requests_wrong_codec_rejected (codec : Nat) (hc : codec < 2 ^ 32) (hne : codec ≠ Gen.multiformatMsgpack)
    (m : CallRequests) :
    decodeCallRequests (encodeMultiformat codec (rmpWrite (CallRequests.toVal m))) = .error (.codec codec) :=
  decodeMultiformat_other_codec codec _ hc hne _ _

example : CallRequestsWF [(0, ⟨"svc", "f", [0x91, 0x01], [0x90]⟩), (4294967295, ⟨"héllo", "", [0x90], [0x90]⟩)] := by
  unfold CallRequestsWF; decide

def CallResultsWF (m : CallResults) : Prop :=
  m.length < 2 ^ 32 ∧ (m.map Prod.fst).Nodup ∧
  ∀ e ∈ m, (strBytes e.1).length < 2 ^ 32 ∧ (-(2 ^ 31) ≤ e.2.retCode ∧ e.2.retCode < 2 ^ 31) ∧
    (strBytes e.2.result).length < 2 ^ 32

/-- Call-result maps round-trip (string keys, `i32` codes including min/max, arbitrary result text). -/
theorem C27_call_results_roundtrip (m : CallResults) (h : CallResultsWF m) :
    decodeCallResults (encodeCallResults m) = .ok m := by
  refine hashMap_roundtrip _ (by decide) (fun (k : String) => Val.str (strBytes k)) CallServiceResult.toVal deString
    deCallServiceResult 1 (by decide) m h.1 h.2.1 (fun e he => ?_) (fun e he => ?_)
  · exact ⟨(h.2.2 e he).1, Nat.zero_le 1, deString_str e.1⟩
  · obtain ⟨_, h2, h3⟩ := h.2.2 e he
    exact res_layout e.2 h2 h3

theorem C27_call_results_lookup (m : CallResults) (h : CallResultsWF m) (k : String) :
    (decodeCallResults (encodeCallResults m)).toOption.bind (fun d => d.lookup k) = m.lookup k := by
  rw [C27_call_results_roundtrip m h]; rfl

/-- Call results under another codec are not decoded. -/
theorem C27_call_results_wrong_codec_rejected (codec : Nat) (hc : codec < 2 ^ 32) (hne : codec ≠ Gen.multiformatMsgpack)
    (m : CallResults) :
    decodeCallResults (encodeMultiformat codec (rmpWrite (CallResults.toVal m))) = .error (.codec codec) :=
  decodeMultiformat_other_codec codec _ hc hne _ _

example : CallResultsWF [("0", ⟨-2147483648, "not json {"⟩), ("4294967295", ⟨2147483647, ""⟩)] := by
  unfold CallResultsWF; decide

/-- Call arguments round-trip: every list of well-formed JSON values (nested arbitrarily below the `rmp_serde`
depth limit) is read back unchanged by the `JValue` reader.  (The host's `serde_json::Value` reader differs on
objects whose first key is serde_json's private RawValue token when serde_json is built with `raw_value`: that is
a finding of the run, not part of the model.) -/
theorem C27_call_arguments_roundtrip (args : List JArg) (hwf : JWFList args) (hlen : args.length < 2 ^ 32)
    (hdepth : depth (.arr (JArg.toValList args)) < maxDepth) :
    decodeCallArguments (encodeCallArguments args) = some args := by
  unfold decodeCallArguments encodeCallArguments
  rw [rmpParse_rmpWrite' (.arr (JArg.toValList args)) (AquaProps.Lemmas.JArg.wf_toVal (.arr args) ⟨hlen, hwf⟩) hdepth]
  simp only [Option.bind_some]
  exact AquaProps.Lemmas.JArg.ofValList_toValList args hwf

example : JWFList [.obj [("a", .arr [.num (-1), .f64 0x3ff0000000000000]), ("é", .null)], .str "日本語"] := by
  simp [JWFList, JWF, JWFPairs, f64Finite]
  decide

def TetrapletWF (t : Tetraplet) : Prop :=
  (strBytes t.peerPk).length < 2 ^ 32 ∧ (strBytes t.serviceId).length < 2 ^ 32 ∧
  (strBytes t.functionName).length < 2 ^ 32 ∧ (strBytes t.lens).length < 2 ^ 32

/-- Tetraplets round-trip (lists of lists of four strings). -/
theorem C27_tetraplets_roundtrip (ts : List (List Tetraplet)) (hlen : ts.length < 2 ^ 32)
    (hrows : ∀ row ∈ ts, row.length < 2 ^ 32 ∧ ∀ t ∈ row, TetrapletWF t) :
    decodeTetraplets (encodeTetraplets ts) = some ts := by
  have hrow : ∀ row ∈ ts, _ := fun row hr =>
    vec_layout Tetraplet.toVal deTetraplet 1 row (hrows row hr).1 fun t ht =>
      have ⟨h1, h2, h3, h4⟩ := (hrows row hr).2 t ht
      tet_layout t h1 h2 h3 h4
  obtain ⟨hv, hd, hde⟩ := vec_layout (fun row => .arr (row.map Tetraplet.toVal)) (deVec deTetraplet) 2 ts hlen hrow
  unfold decodeTetraplets encodeTetraplets
  rw [rmpParse_rmpWrite' _ hv (Nat.lt_of_le_of_lt hd (by decide))]
  exact hde

def EnvelopeWF (v : VersionTexts) (inner : Bytes) : Prop :=
  (strBytes v.dataVersion).length < 2 ^ 32 ∧ (strBytes v.interpreterVersion).length < 2 ^ 32 ∧ inner.length < 2 ^ 32

theorem rmpParse_encodeEnvelope (v : VersionTexts) (inner : Bytes) (h : EnvelopeWF v inner) :
    rmpParse (encodeEnvelope v inner) = some (envelopeVal v inner) :=
  rmpParse_rmpWrite' _ (wf_structVal _ _ (by decide) (by simpa [WF, EnvelopeWF] using h) (by simp))
    (Nat.lt_of_le_of_lt (depth_structVal_le _ _ 0 (by simp [depth])) (by decide))

/-- Envelopes round-trip for ARBITRARY inner bytes: whatever the inner data is (decodable or not), the envelope
decodes to the versions that were written (their texts `v` parse to `d`, `i`) and to the very same inner bytes. -/
theorem C27_envelope_roundtrip (v : VersionTexts) (inner : Bytes) (d i : Semver.Version)
    (hd : Semver.parse v.dataVersion.toList = some d) (hi : Semver.parse v.interpreterVersion.toList = some i)
    (hwf : EnvelopeWF v inner) :
    decodeEnvelope (encodeEnvelope v inner) = some (⟨d, i⟩, inner) := by
  unfold decodeEnvelope
  rw [rmpParse_encodeEnvelope v inner hwf]
  -- on the three entries that were written the reader evaluates to: the bytes of the bin, the versions of the two texts
  show (do
    let inner' ← deByteBuf (.bin inner)
    let vs ← (do
      let d ← deVersion (.str (strBytes v.dataVersion))
      let i ← deVersion (.str (strBytes v.interpreterVersion))
      pure (⟨d, i⟩ : Versions))
    pure (vs, inner')) = _
  rw [deVersion_str _ d hd, deVersion_str _ i hi]
  rfl

/-- The versions are readable even when the inner data is not: `try_get_versions` on an envelope with
ARBITRARY inner bytes returns the versions that were written; the inner bytes are never looked at. -/
theorem C27_envelope_versions_readable (v : VersionTexts) (inner : Bytes) (d i : Semver.Version)
    (hd : Semver.parse v.dataVersion.toList = some d) (hi : Semver.parse v.interpreterVersion.toList = some i)
    (hwf : EnvelopeWF v inner) :
    decodeVersions (encodeEnvelope v inner) = some ⟨d, i⟩ := by
  unfold decodeVersions
  rw [rmpParse_encodeEnvelope v inner hwf]
  simp only [Option.bind_some, envelopeVal, deStruct_ver]
  simp [deVersion_str v.dataVersion d hd, deVersion_str v.interpreterVersion i hi]

example : Semver.parse "0.17.2".toList = some ⟨0, 17, 2, [], []⟩ := by decide
example : Semver.parse "0.64.1-rc.1+b.07".toList = some ⟨0, 64, 1, ["rc".toList, "1".toList], ["b".toList, "07".toList]⟩ := by decide +kernel
example : EnvelopeWF ⟨"0.17.2", "0.64.1"⟩ [0xc1, 0xff, 0x00] := by unfold EnvelopeWF; decide

/-- FULL statement: the rkyv codec of `InterpreterData` round-trips AND data wrapped into an envelope comes back.
`rkyv` stands for `InterpreterData::serialize` / `try_from_slice`, whose archive layout (relative pointers,
alignment, `check_bytes` validation) is NOT modelled. -/
def C27_full {α : Type} (rkyv : Codec α) : Prop :=
  rkyv.RoundTrips ∧
  ∀ (v : VersionTexts) (x : α) (d i : Semver.Version), Semver.parse v.dataVersion.toList = some d →
    Semver.parse v.interpreterVersion.toList = some i → EnvelopeWF v (rkyv.serialize x) →
    decodeData rkyv (encodeData rkyv v x) = some (⟨d, i⟩, x)

/-- PARTIAL: the second half of `C27_full` given the first as a hypothesis — the envelope adds nothing that could
break the round trip of the inner codec.  Missing for the full claim: `rkyv.RoundTrips` for the real rkyv layout; it
is only tested (every data blob of the simulated histories and generated variants: `try_from_slice (serialize x)`
compared field by field), not proved. -/
theorem C27_data_roundtrip_partial {α : Type} (rkyv : Codec α) (hrt : rkyv.RoundTrips)
    (v : VersionTexts) (x : α) (d i : Semver.Version) (hd : Semver.parse v.dataVersion.toList = some d)
    (hi : Semver.parse v.interpreterVersion.toList = some i) (hwf : EnvelopeWF v (rkyv.serialize x)) :
    decodeData rkyv (encodeData rkyv v x) = some (⟨d, i⟩, x) := by
  unfold decodeData encodeData
  rw [C27_envelope_roundtrip v (rkyv.serialize x) d i hd hi hwf]
  simp [hrt x]

/-- a codec that satisfies the hypothesis (identity on byte strings) -/
example : (⟨id, some⟩ : Codec Bytes).RoundTrips := fun _ => rfl

end AquaProps.C27
