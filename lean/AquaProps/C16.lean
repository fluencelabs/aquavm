import AquaProps.Lemmas.C16Main
import AquaProps.C19
/-!
# C16 — distributed execution agrees with the sequential meaning of the script

Reference semantics: `Aqua.Ref.eval` (`lean/Aqua/Ref/Eval.lean`), a sequential big-step evaluator written
from the documented meaning of the instructions; `Ref.calls O p fuel script` is the list of service
calls of the sequential reading under the deterministic service oracle `O`.

Executor: `Aqua.Exec.runExec` (the replica of `air.execute`), one run of one peer.

What is proved (for ALL scripts of the stated sub-fragment, all oracles, all fuel that covers the nesting depth,
all run parameters, all hash / JSON-parser environments) is about ONE run without call results (a particle
delivered, duplicated or stale: arbitrary previous and current data, merged by the trace handler) whose input
data is *honest* (`HonestInputs`: every `Executed(Scalar)` / `Failed` call state of the two traces resolves,
through the merged CID stores, to an entry that is the oracle's answer for every argument list with the stored
argument hash; no `Executed(Unused)` states).  Replayed `Executed` states re-bind the oracle's value
(`verifyCall`: stored argument hash and tetraplet equal the current ones), `Failed` states re-raise where the
sequential reading fails.

Sub-fragment of the theorems (`FragA`, decidable; `InFragmentA` adds "output scalars pairwise distinct"):
call (scalar or no output; triplet parts literal / `%init_peer_id%` / scalar / scalar with lens; arguments
additionally `%timestamp%`, `%ttl%`, numbers, booleans, `[]`), seq, par, xor, match, mismatch, scalar ap,
fail, null, never.  The xor-guard side condition of the property is NOT needed by these theorems.
NOT covered by the theorems (gap, see `C16_full`): `new`, `fold`/`next` (the scoping of scalars by fold
depth), runs that consume call results (the link between a request id and the call that issued it lives
in the host, not in the data — it needs the trace-replay theory of Appendix B), preservation of
`HonestInputs` by a run (monitored instead on every data blob of every explored history by the harness),
and the induction over network events.  The direct oracle (`harness/src/props/c16.rs`) covers the whole
fragment on the real interpreter over all small interleavings.
-/
namespace AquaProps.C16
open Aqua Aqua.Json Aqua.Air Aqua.Exec Aqua.Ref AquaProps

/-- the particle parameters the reference evaluator reads -/
def refParams (rp : RunParams) : Params := ⟨rp.initPeerId, rp.timestamp, rp.ttl⟩

/-- a call request as a call of the reference semantics -/
abbrev asCall (r : CallRequest) : Call := toCall r

/-- the merged CID stores a run works with (`ExecutionCtx::new`) -/
def mergedStores (prev cur : DataIn) : CidState := (initCtx prev cur ⟨"", "", 0, 0⟩ []).cid

/-- honest input data for oracle `O`: every call state of the two traces that carries a result agrees
with the oracle through the merged stores -/
def HonestInputs (O : Oracle) (env : Env) (prev cur : DataIn) : Prop :=
  ∀ st, st ∈ prev.trace ∨ st ∈ cur.trace → GoodState O env (mergedStores prev cur) st

theorem inv_init (prev cur : DataIn) (rp : RunParams) :
    Inv (refParams rp) (mergedStores prev cur) prev.trace cur.trace (initCtx prev cur rp []) {} where
  flatC := ⟨rfl, rfl, rfl, fun _ _ => (nomatch ·)⟩
  flatS := ⟨⟨{}, rfl, rfl⟩, rfl⟩
  sub := fun _ _ => (nomatch ·)
  params := ⟨rfl, rfl, rfl⟩
  noResults := rfl
  cid := rfl
  ptrace := rfl
  ctrace := rfl
  reqs := fun _ => (nomatch ·)

/-- the scalars of the script are bound at most once (output names of calls and `ap`s pairwise distinct) and
the fuel covers the nesting depth: then the sequential reading is defined (`Ref.eval` does not abort) -/
def WellFormedA (script : Instr) (fuel : Nat) : Bool :=
  FragA script && decide ((binders script).Nodup) && decide (depth script ≤ fuel)

/-- decidable predicate of the sub-fragment the theorems cover -/
def InFragmentA (script : Instr) : Bool := FragA script && decide ((binders script).Nodup)

theorem wf_frag {script : Instr} {fuel : Nat} (h : WellFormedA script fuel = true) : FragA script = true := by
  simp only [WellFormedA, Bool.and_eq_true] at h
  exact h.1.1

theorem ref_noAbort (O : Oracle) (p : Params) (fuel : Nat) (script : Instr) (h : WellFormedA script fuel = true) :
    NoAbort (Ref.run O p fuel script).1 := by
  simp only [WellFormedA, Bool.and_eq_true, decide_eq_true_eq] at h
  exact eval_noAbort O p fuel false script {} h.1.1 ⟨⟨{}, rfl, rfl⟩, rfl⟩ h.2 h.1.2 fun n _ => rfl

theorem run_sim (O : Oracle) (env : Env) (fuel : Nat) (script : Instr) (prev cur : DataIn) (rp : RunParams)
    (hfrag : FragA script = true) (hhonest : HonestInputs O env prev cur)
    (hna : NoAbort (Ref.run O (refParams rp) fuel script).1) :
    SimPost (refParams rp) (mergedStores prev cur) prev.trace cur.trace
      (runExec env fuel script prev cur rp []).1 (runExec env fuel script prev cur rp []).2 (Ref.run O (refParams rp) fuel script) :=
  exec_sim hhonest fuel false script _ _ hfrag (inv_init prev cur rp) hna

/-- Soundness of one run without call results (delivery of a particle, duplicate, stale data; any
previous / current data that is honest for the oracle): every call request issued by the run is a call
of the sequential reading of the script, with the same peer, service, function and argument values.
Quantifies over all scripts of the sub-fragment `FragA` whose output scalars are pairwise distinct, all
oracles, hash / JSON-parser environments, data, parameters, and all fuel that covers the nesting depth. -/
theorem C16_run_sound_partial (O : Oracle) (env : Env) (fuel : Nat) (script : Instr) (prev cur : DataIn) (rp : RunParams)
    (hwf : WellFormedA script fuel = true) (hhonest : HonestInputs O env prev cur) :
    ∀ x ∈ (runExec env fuel script prev cur rp []).2.callRequests,
      asCall x.2 ∈ Ref.calls O (refParams rp) fuel script :=
  (run_sim O env fuel script prev cur rp (wf_frag hwf) hhonest (ref_noAbort O _ fuel script hwf)).inv.reqs

/-- the same with the semantic premise "the sequential reading does not abort" instead of the syntactic one
(covers scripts that bind a name twice on paths the sequential reading does not both take) -/
theorem C16_run_sound_of_defined_partial (O : Oracle) (env : Env) (fuel : Nat) (script : Instr) (prev cur : DataIn) (rp : RunParams)
    (hfrag : FragA script = true) (hhonest : HonestInputs O env prev cur)
    (hna : NoAbort (Ref.run O (refParams rp) fuel script).1) :
    ∀ x ∈ (runExec env fuel script prev cur rp []).2.callRequests,
      asCall x.2 ∈ Ref.calls O (refParams rp) fuel script :=
  (run_sim O env fuel script prev cur rp hfrag hhonest hna).inv.reqs

/-- First run of the init peer (empty previous and current data): every request is a call of the
sequential reading. -/
theorem C16_first_run_sound_partial (O : Oracle) (env : Env) (fuel : Nat) (script : Instr) (rp : RunParams)
    (hwf : WellFormedA script fuel = true) :
    ∀ x ∈ (runExec env fuel script {} {} rp []).2.callRequests,
      asCall x.2 ∈ Ref.calls O (refParams rp) fuel script :=
  C16_run_sound_partial O env fuel script {} {} rp hwf (fun st h => by rcases h with h | h <;> simp at h)

/-- Replay: previous data holding results of earlier honest runs (no current data): replayed `Executed`
states re-bind the oracle's values, `Failed` states re-raise where the sequential reading fails, and the
calls the run newly issues (its frontier) are calls of the sequential reading. -/
theorem C16_replay_sound_partial (O : Oracle) (env : Env) (fuel : Nat) (script : Instr) (prev : DataIn) (rp : RunParams)
    (hwf : WellFormedA script fuel = true) (hhonest : HonestInputs O env prev {}) :
    ∀ x ∈ (runExec env fuel script prev {} rp []).2.callRequests,
      asCall x.2 ∈ Ref.calls O (refParams rp) fuel script :=
  C16_run_sound_partial O env fuel script prev {} rp hwf hhonest

/-- the run's result agrees with the sequential reading: a run that completes the script (`Ok`, subgraph
complete) only happens when the sequential reading completes; a run that ends in a catchable error only
when the sequential reading fails: no peer takes a branch the sequential reading does not take -/
theorem C16_run_outcome_partial (O : Oracle) (env : Env) (fuel : Nat) (script : Instr) (prev cur : DataIn) (rp : RunParams)
    (hwf : WellFormedA script fuel = true) (hhonest : HonestInputs O env prev cur) :
    ((runExec env fuel script prev cur rp []).1 = .ok () → (runExec env fuel script prev cur rp []).2.subgraphComplete = true →
        (Ref.run O (refParams rp) fuel script).1 = .done) ∧
    (∀ ce, (runExec env fuel script prev cur rp []).1 = .error (.catchable ce) → (Ref.run O (refParams rp) fuel script).1 = .failed) :=
  have h := run_sim O env fuel script prev cur rp (wf_frag hwf) hhonest (ref_noAbort O _ fuel script hwf)
  ⟨h.done, h.failed⟩

/-- the stores are not changed by a run without call results (so honest stores stay honest) -/
theorem C16_stores_unchanged_partial (O : Oracle) (env : Env) (fuel : Nat) (script : Instr) (prev cur : DataIn) (rp : RunParams)
    (hwf : WellFormedA script fuel = true) (hhonest : HonestInputs O env prev cur) :
    (runExec env fuel script prev cur rp []).2.cid = mergedStores prev cur :=
  (run_sim O env fuel script prev cur rp (wf_frag hwf) hhonest (ref_noAbort O _ fuel script hwf)).inv.cid

/-- every request is issued for the current peer (C19): together with `C16_run_sound_partial` the peer
that runs a service call is the peer the sequential reading names -/
theorem C16_requests_for_current_peer (env : Env) (fuel : Nat) (script : Instr) (prev cur : DataIn) (rp : RunParams)
    (results : List (String × CallServiceResult)) :
    ∀ x ∈ (runExec env fuel script prev cur rp results).2.callRequests, (asCall x.2).peer = rp.currentPeerId :=
  C19.C19_local_only env fuel script prev cur rp results

/-- a script of the sub-fragment: the result of the first call is the argument of the second, which runs on
another peer and decides a branch -/
def exScript : Instr :=
  .seq (.call (.literal "a") (.literal "svc") (.literal "f") [] (.scalar "x"))
       (.xor (.seq (.call (.literal "b") (.literal "svc") (.literal "g") [.scalar "x", .number 1] (.scalar "y"))
                   (.match_ (.scalar "y") (.literal "no") .null))
             (.par (.call (.scalar "x") (.literal "svc") (.literal "h") [.scalar "y"] .none) .never))

/-- an oracle whose answers steer the script: `f` returns a peer id, `g` returns "yes" -/
def exOracle : Oracle := fun _peer _svc fn _args =>
  if fn = "f" then .ok (.str "b") else if fn = "g" then .ok (.str "yes") else .fail 1 "no such function"

def exParams : RunParams := ⟨"a", "a", 0, 0⟩
def exEnv : Env := { hash := fun s => s, parseJson := fun s => if s = "\"b\"" then some (.str "b") else none }

example : FragA exScript = true := by decide

/-- the sequential reading: `f` on a, `g` on b with [x = "b", 1], the match fails, the handler calls `h` on b -/
example : (Ref.calls exOracle (refParams exParams) 10 exScript).map (fun c => (c.peer, c.function)) =
    [("a", "f"), ("b", "g"), ("b", "h")] := by decide

example : WellFormedA exScript 10 = true := by decide
example : InFragmentA exScript = true := by decide

/-- previous data of peer b after the result of `f` arrived from peer a: one executed call, its value, tetraplet
and service-result aggregate in the stores (content ids abbreviated) -/
def exPrev : DataIn :=
  { trace := [.call (.executed (.scalar "c1"))], lcid := 0,
    cid := { values := [("v1", "\"b\"")], tetraplets := [("t1", ⟨"a", "svc", "f", ""⟩)],
             serviceResults := [("c1", ⟨"v1", "[]", "t1"⟩)] } }

/-- the data is honest for `exOracle`: the stored value of the call `f` on peer a is the oracle's answer -/
theorem ex_honest : HonestInputs exOracle exEnv exPrev {} := by
  intro st h
  rcases h with h | h
  · simp only [exPrev, List.mem_singleton] at h
    subst h
    intro v t agg hres args _
    have hr : resolveServiceInfo exEnv (mergedStores exPrev {}) "c1" =
        .ok (.str "b", ⟨"a", "svc", "f", ""⟩, ⟨"v1", "[]", "t1"⟩) := by rfl
    rw [hr] at hres
    injection hres with hres; injection hres with h1 h2; injection h2 with h2 h3
    subst h1; subst h2
    rfl
  · simp at h

/-- so `C16_run_sound_partial` applies to a run of peer b on this data -/
example : ∀ x ∈ (runExec exEnv 10 exScript exPrev {} ⟨"a", "b", 0, 0⟩ []).2.callRequests,
    asCall x.2 ∈ Ref.calls exOracle (refParams ⟨"a", "b", 0, 0⟩) 10 exScript :=
  C16_run_sound_partial exOracle exEnv 10 exScript exPrev {} ⟨"a", "b", 0, 0⟩ (by decide) ex_honest

/-! ## the network of Appendix H (model used to STATE the full property) -/

structure HostPeer where
  id : String
  /-- last data returned by the interpreter -/
  prev : DataIn := {}
  /-- issued, not yet answered -/
  pending : List (Nat × CallRequest) := []
  /-- every request ever handed to the host -/
  log : List CallRequest := []

structure Net where
  peers : List HostPeer
  /-- particles on the wire: (addressee, data) -/
  inflight : List (String × DataIn) := []

inductive Event where
  /-- run the addressee of message `i` with it as current data; `keep` = the message stays on the wire (duplicate) -/
  | deliver (i : Nat) (keep : Bool)
  /-- hand peer `peer` the answers for the pending requests `ids` -/
  | answer (peer : String) (ids : List Nat)

/-- the data a run returns (`InterpreterData` fields the execution stage produces) -/
def outData (c : Ctx) : DataIn := { trace := c.th.keeper.resultTrace, lcid := c.lastCallRequestId, cid := c.cid }

/-- the host executes a request with the deterministic services -/
def answerOf (O : Oracle) (r : CallRequest) : CallServiceResult :=
  match O r.forPeer r.serviceId r.functionName r.arguments with
  | .ok v => ⟨0, v.render⟩
  | .fail code msg => ⟨code, msg⟩

structure Particle where
  script : Instr
  initPeerId : String
  timestamp : Nat
  ttl : Nat

/-- one run of a peer: current data `cur`, answers for the pending ids `ids`; the host contract
(keep the data on uncatchable failure, remember and execute the new requests, forward to the next peers) -/
def runPeer (env : Env) (fuel : Nat) (O : Oracle) (pt : Particle) (h : HostPeer) (cur : DataIn) (ids : List Nat) :
    HostPeer × List (String × DataIn) :=
  let answered := h.pending.filter fun x => ids.contains x.1
  let results := answered.map fun x => (toString x.1, answerOf O x.2)
  let rc := runExec env fuel pt.script h.prev cur ⟨pt.initPeerId, h.id, pt.timestamp, pt.ttl⟩ results
  let accepted : Bool := match rc.1 with
    | .ok () => true
    | .error (.catchable _) => true
    | _ => false
  if accepted then
    ({ h with prev := outData rc.2,
              pending := (h.pending.filter fun x => !(ids.contains x.1)) ++ rc.2.callRequests,
              log := h.log ++ rc.2.callRequests.map (·.2) },
     rc.2.nextPeerPks.map fun q => (q, outData rc.2))
  else (h, [])

def replacePeer (peers : List HostPeer) (h : HostPeer) : List HostPeer :=
  peers.map fun x => if x.id == h.id then h else x

def Net.step (env : Env) (fuel : Nat) (O : Oracle) (pt : Particle) (n : Net) : Event → Net
  | .deliver i keep =>
    match n.inflight[i]? with
    | none => n
    | some (q, d) =>
      match n.peers.find? (fun h => h.id == q) with
      | none => n
      | some h =>
        let (h', out) := runPeer env fuel O pt h d []
        { peers := replacePeer n.peers h', inflight := (if keep then n.inflight else n.inflight.eraseIdx i) ++ out }
  | .answer peer ids =>
    match n.peers.find? (fun h => h.id == peer) with
    | none => n
    | some h =>
      let (h', out) := runPeer env fuel O pt h {} ids
      { peers := replacePeer n.peers h', inflight := n.inflight ++ out }

/-- the start: the init peer runs on empty data -/
def Net.start (env : Env) (fuel : Nat) (O : Oracle) (pt : Particle) (peerIds : List String) : Net :=
  let peers : List HostPeer := peerIds.map fun i => { id := i }
  match peers.find? (fun h => h.id == pt.initPeerId) with
  | none => { peers := peers }
  | some h =>
    let (h', out) := runPeer env fuel O pt h {} []
    { peers := replacePeer peers h', inflight := out }

inductive Reachable (env : Env) (fuel : Nat) (O : Oracle) (pt : Particle) (peerIds : List String) : Net → Prop
  | start : Reachable env fuel O pt peerIds (Net.start env fuel O pt peerIds)
  | step (n : Net) (e : Event) : Reachable env fuel O pt peerIds n → Reachable env fuel O pt peerIds (Net.step env fuel O pt n e)

def readsVar : Value → Bool
  | .scalar _ | .scalarWL _ _ => true
  | _ => false

/-- instructions that can raise a catchable error by themselves -/
def fallible : Instr → Bool
  | .call .. | .fail _ | .match_ .. | .mismatch .. => true
  | .ap arg _ => readsVar arg
  | .foldScalar it _ _ _ => readsVar it
  | _ => false

/-- instruction set and operands of the C16 fragment, and the side condition: every fallible instruction
is under an xor left branch with no par in between (`g` = currently guarded) -/
def InFragment (g : Bool) : Instr → Bool
  | .call p s f args out => g && FragT p && FragT s && FragT f && args.all FragV && (match out with | .stream .. => false | _ => true)
  | .seq l r => InFragment g l && InFragment g r
  | .par l r => InFragment false l && InFragment false r
  | .xor l r => InFragment true l && InFragment g r
  | .match_ a b i => g && FragV a && FragV b && InFragment g i
  | .mismatch a b i => g && FragV a && FragV b && InFragment g i
  | .ap arg out => (g || !readsVar arg) && FragV arg && (match out with | .scalar _ => true | _ => false)
  | .fail arg => g && (match arg with | .canonWL .. => false | _ => true)
  | .foldScalar it _ body last => (g || !readsVar it) && (match it with | .scalar _ | .scalarWL _ _ | .emptyArray => true | _ => false) &&
      InFragment g body && (match last with | some l => InFragment g l | none => true)
  | .next _ => true
  | .new arg body _ _ => (match arg with | .scalar _ => true | _ => false) && InFragment g body
  | .null | .never => true
  | _ => false

/-- the property at full strength (NOT proved; the theorems above are its single-run part on `FragA` for
runs without call results): for every script of the whole fragment (`InFragment false`: with `new`,
`fold`/`next` and the xor-guard side condition), every oracle, every reachable state of the honest network
(all delivery orders, duplicates, late / batched answers), every request any peer ever handed to its host is
a call of the sequential reading — same peer, service, function, argument values.
Missing: `new` and `fold`/`next` in the simulation; runs that consume call results (the request-id ↔ call
link, i.e. the trace-replay theory of DESIGN.md Appendix B); `Executed(Unused)` states; preservation of
honest data by every run; the induction over `Reachable`.  On the real interpreter the statement is FALSE
for three script shapes (see the known findings `c16-*`). -/
def C16_full : Prop :=
  ∀ (O : Oracle) (env : Env) (fuel : Nat) (pt : Particle) (peerIds : List String) (n : Net),
    InFragment false pt.script = true → pt.initPeerId ∈ peerIds →
    Reachable env fuel O pt peerIds n →
    ∀ h ∈ n.peers, ∀ q ∈ h.log,
      (asCall q ∈ Ref.calls O ⟨pt.initPeerId, pt.timestamp, pt.ttl⟩ fuel pt.script ∧ (asCall q).peer = h.id)

end AquaProps.C16
