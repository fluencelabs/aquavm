import AquaProps.Lemmas.Grow
import Aqua.Exec.Run
/-!
# C06 — call request ids are fresh

Statements are about `Aqua.Exec.runExec`, the execution stage of the model, for EVERY script, fuel,
previous data, current data, run parameters and call-result map (also adversarial ones).
-/
namespace AquaProps.C06
open Aqua Aqua.Exec Aqua.Air AquaProps

abbrev finalCtx (env : Env) (fuel : Nat) (script : Instr) (prev cur : DataIn) (p : RunParams)
    (results : List (String × CallServiceResult)) : Ctx := (runExec env fuel script prev cur p results).2

/-- Shape of the requests of one run: they carry exactly the consecutive ids
`prev.lcid + 1, …, prev.lcid + n`, in issue order, and the new counter is `prev.lcid + n`. -/
theorem C06_requests_numbered (env : Env) (fuel : Nat) (script : Instr) (prev cur : DataIn) (p : RunParams)
    (results : List (String × CallServiceResult)) :
    ∃ rs : List CallRequest,
      (finalCtx env fuel script prev cur p results).callRequests = numbered (prev.lcid + 1) rs ∧
      (finalCtx env fuel script prev cur p results).lastCallRequestId = prev.lcid + rs.length := by
  obtain ⟨rs, hr, hl, _⟩ := (exec_grow env fuel script (initCtx prev cur p results)).reqs
  exact ⟨rs, hr, hl⟩

/-- Freshness within a run: every id handed out is larger than the previous data's counter, at most
the new counter, and ids are strictly increasing (hence pairwise distinct). -/
theorem C06_ids_fresh (env : Env) (fuel : Nat) (script : Instr) (prev cur : DataIn) (p : RunParams)
    (results : List (String × CallServiceResult)) :
    (∀ x ∈ (finalCtx env fuel script prev cur p results).callRequests,
        prev.lcid < x.1 ∧ x.1 ≤ (finalCtx env fuel script prev cur p results).lastCallRequestId) ∧
    ((finalCtx env fuel script prev cur p results).callRequests.map (·.1)).Pairwise (· < ·) ∧
    prev.lcid ≤ (finalCtx env fuel script prev cur p results).lastCallRequestId := by
  obtain ⟨rs, hr, hl⟩ := C06_requests_numbered env fuel script prev cur p results
  rw [hr, hl]
  refine ⟨?_, numbered_ids_increasing _ _, by omega⟩
  intro x hx
  have := mem_numbered hx
  omega

/-- the counter is read from the previous data only: whatever the current data claims is ignored -/
theorem C06_counter_ignores_current (env : Env) (fuel : Nat) (script : Instr) (prev cur : DataIn) (p : RunParams)
    (results : List (String × CallServiceResult)) (n : Nat) :
    runExec env fuel script prev { cur with lcid := n } p results = runExec env fuel script prev cur p results := rfl

/-- of one run: the counter before, the ids handed out, the counter after -/
structure RunIds where
  before : Nat
  ids : List Nat
  after : Nat

def Chained : Nat → List RunIds → Prop
  | _, [] => True
  | n, r :: rs => r.before = n ∧ (∀ i ∈ r.ids, n < i ∧ i ≤ r.after) ∧ r.ids.Pairwise (· < ·) ∧ n ≤ r.after ∧ Chained r.after rs

theorem chained_lower (n : Nat) (runs : List RunIds) (h : Chained n runs) : ∀ i ∈ runs.flatMap (·.ids), n < i := by
  induction runs generalizing n with
  | nil => simp
  | cons r rs ih =>
    obtain ⟨_, hi, _, hle, hc⟩ := h
    intro i hi'
    simp only [List.flatMap_cons, List.mem_append] at hi'
    rcases hi' with h1 | h2
    · exact (hi i h1).1
    · have := ih r.after hc i h2; omega

/-- Freshness along a history.  A host feeds each run with the counter it got back from the previous
one (`C02`: a failed run returns the previous data, i.e. the same counter).  If every run of such a chain
(`Chained`) satisfies `C06_ids_fresh`, the concatenation of all ids ever handed out is strictly increasing. -/
theorem C06_history_fresh (n : Nat) (runs : List RunIds) (h : Chained n runs) :
    (runs.flatMap (·.ids)).Pairwise (· < ·) := by
  induction runs generalizing n with
  | nil => simp
  | cons r rs ih =>
    obtain ⟨_, hi, hp, hle, hc⟩ := h
    simp only [List.flatMap_cons, List.pairwise_append]
    refine ⟨hp, ih r.after hc, ?_⟩
    intro a ha b hb
    have h1 := (hi a ha).2
    have h2 := chained_lower r.after rs hc b hb
    omega

example : Chained 3 [⟨3, [4, 5], 5⟩, ⟨5, [], 5⟩, ⟨5, [6], 6⟩] := by
  simp only [Chained]; decide

end AquaProps.C06
