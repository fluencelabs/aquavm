import Aqua.Json.Value
/-! `JVal.beq` (the model's `==`: structural, floats by their printed text) implies equality. -/
namespace AquaProps.JsonEq
open Aqua.Json

mutual
theorem beq_eq : ∀ a b : JVal, JVal.beq a b = true → a = b
  | .null, b, h => by cases b with | null => rfl | _ => cases h
  | .bool x, b, h => by cases b with | bool y => exact congrArg _ (eq_of_beq (show (x == y) = true from h)) | _ => cases h
  | .num x, b, h => by cases b with | num y => exact congrArg _ (eq_of_beq (show (x == y) = true from h)) | _ => cases h
  | .float x, b, h => by cases b with | float y => exact congrArg _ (eq_of_beq (show (x == y) = true from h)) | _ => cases h
  | .str x, b, h => by cases b with | str y => exact congrArg _ (eq_of_beq (show (x == y) = true from h)) | _ => cases h
  | .arr x, b, h => by cases b with | arr y => exact congrArg _ (beqList_eq x y h) | _ => cases h
  | .obj x, b, h => by cases b with | obj y => exact congrArg _ (beqPairs_eq x y h) | _ => cases h
theorem beqList_eq : ∀ a b : List JVal, JVal.beqList a b = true → a = b
  | [], [], _ => rfl
  | x :: xs, y :: ys, h => by
    obtain ⟨h1, h2⟩ := Bool.and_eq_true_iff.mp (show (JVal.beq x y && JVal.beqList xs ys) = true from h)
    rw [beq_eq x y h1, beqList_eq xs ys h2]
  | [], _ :: _, h | _ :: _, [], h => by cases h
theorem beqPairs_eq : ∀ a b : List (String × JVal), JVal.beqPairs a b = true → a = b
  | [], [], _ => rfl
  | (ka, x) :: xs, (kb, y) :: ys, h => by
    obtain ⟨h12, h3⟩ := Bool.and_eq_true_iff.mp (show (ka == kb && JVal.beq x y && JVal.beqPairs xs ys) = true from h)
    obtain ⟨h1, h2⟩ := Bool.and_eq_true_iff.mp h12
    rw [eq_of_beq h1, beq_eq x y h2, beqPairs_eq xs ys h3]
  | [], _ :: _, h | _ :: _, [], h => by cases h
end

theorem beq_iff (a b : JVal) : (a == b) = true → a = b := beq_eq a b

end AquaProps.JsonEq
