import AquaProps.C05
/-!
What happens to the merged state a `call` instruction consumed (`meet_call_start`).  The lemmas below
compute `handle_prev_state` and what follows branch by branch (for EVERY context), and conclude:

* when the consumed state is an `Executed` result, the peer's own pending request with no result at hand yet, or a
  request of another sender, every normal exit of the call step pushes exactly one call state and it *covers* the
  consumed one — the same result if it was a result, some state of the same call if it was a request (a `Failed`
  state has no normal exit; the own request whose result has arrived is not treated here);
* the only way a consumed state vanishes without an uncatchable error or a panic is the branch
  `dispatch` → `issueRequest` fails with a non-joinable catchable error: a foreign request for a call
  addressed to the current peer whose arguments do not resolve (known finding C04).
-/
namespace AquaProps
open Aqua Aqua.Exec Aqua.Air Aqua.Data Aqua.Trace Aqua.Json AquaProps.C05

def tr (c : Ctx) : Trace := c.th.keeper.resultTrace

theorem tr_meetCallEnd (c : Ctx) (cr : CallResult) : tr { c with th := c.th.meetCallEnd cr } = tr c ++ [.call cr] := rfl

theorem tr_recordCallCid (c : Ctx) (p cid : String) : tr (c.recordCallCid p cid) = tr c := by
  unfold tr; rw [recordCallCid_eq]

/-- the state a call pushes covers the one it consumed -/
def Covers (old new : CallResult) : Prop :=
  match old with
  | .executed _ => new = old
  | .failed _ => new = old
  | .requestSentBy _ => True

/-- exactly one call state covering `old` was appended -/
def Repushed (old : CallResult) (c c' : Ctx) : Prop := ∃ st, tr c' = tr c ++ [.call st] ∧ Covers old st

theorem afterState_noexec_none (t : Tetraplet) (args : List Value) (c : Ctx) :
    afterState t args (.mk false none) c = (.ok (), c) := rfl

theorem afterState_noexec_some (t : Tetraplet) (args : List Value) (cr : CallResult) (c : Ctx) :
    afterState t args (.mk false (some cr)) c = (.ok (), { c with th := c.th.meetCallEnd cr }) := rfl

theorem dispatch_local (t : Tetraplet) (args : List Value) (cr : CallResult) (c : Ctx) (hme : t.peerPk = c.currentPeerId) :
    dispatch t args (.mk true (some cr)) c =
      (match issueRequest t args c with
       | .ok c' => (.ok (), c')
       | .error e => if e.isJoinable then (.error e, { c with th := c.th.meetCallEnd cr }) else (.error e, c)
       | .panic s => (.panic s, c)) := by
  unfold dispatch
  simp only [bind_apply, readCtx, hme, bne_self_eq_false, Bool.false_eq_true, if_false, tryM, modifyER]
  cases issueRequest t args c with
  | ok c' => rfl
  | error e =>
    simp only
    split
    · rw [bind_apply]; rfl
    · rfl
  | panic s => rfl

theorem tr_issueRequest {t : Tetraplet} {args : List Value} {c c' : Ctx} (h : issueRequest t args c = .ok c') :
    ∃ id, tr c' = tr c ++ [.call (.requestSentBy (.peerIdWithCallId c.currentPeerId id))] := by
  obtain ⟨vs, tss, _, rfl⟩ := issueRequest_eq_ok h
  exact ⟨_, rfl⟩

theorem handlePrevState_executed (env : Env) (m : MetCallResult) (t : Tetraplet) (ah : Option String) (out : CallOutput)
    (v : ValueRef) (hres : m.result = .executed v) (c : Ctx) :
    handlePrevState env m t ah out c =
      (match ah with
       | none => (.panic "prev_result_handler.rs:handle_prev_state:argument_hash.unwrap()(Executed)", c)
       | some h =>
         match populateFromData env c v h t m.tracePos out m.source with
         | .ok c1 => (.ok (.mk false none), updPrevExecuted t v c1)
         | .error e => (.error e, c)
         | .panic s => (.panic s, c)) := by
  unfold handlePrevState
  rw [hres]
  simp only
  rw [bind_apply]
  cases ah with
  | none => rfl
  | some h =>
    simp only [unwrapHash, pure, M.pure]
    rw [bind_apply]
    simp only [modifyER]
    cases populateFromData env c v h t m.tracePos out m.source with
    | ok c1 => rfl
    | error e => rfl
    | panic s => rfl

theorem handlePrevState_own_none (env : Env) (m : MetCallResult) (t : Tetraplet) (ah : Option String) (out : CallOutput)
    (id : Nat) (c : Ctx) (hres : m.result = .requestSentBy (.peerIdWithCallId c.currentPeerId id))
    (hnone : lookup c.callResults (toString id) = none) :
    handlePrevState env m t ah out c = (.ok (.mk false (some m.result)), { c with subgraphComplete := false }) := by
  unfold handlePrevState
  rw [hres]
  simp only [bind_apply, readCtx, beq_self_eq_true, if_true, hnone]
  rfl

/-- a request that is not this peer's own pending one -/
def ForeignRequest (me : String) (cr : CallResult) : Prop :=
  ∃ s, cr = .requestSentBy s ∧ ∀ id, s ≠ .peerIdWithCallId me id

theorem handlePrevState_foreign (env : Env) (m : MetCallResult) (t : Tetraplet) (ah : Option String) (out : CallOutput)
    (c : Ctx) (hres : ForeignRequest c.currentPeerId m.result) :
    handlePrevState env m t ah out c = sentByOther m t c := by
  obtain ⟨s, hs, hne⟩ := hres
  unfold handlePrevState
  rw [hs]
  cases s with
  | peerId p => rfl
  | peerIdWithCallId p id =>
    have : (p == c.currentPeerId) = false := beq_eq_false_iff_ne.mpr fun h => hne id (by rw [h])
    simp only [bind_apply, readCtx, this, Bool.false_eq_true, if_false]

theorem prepareState_met (env : Env) (m : MetCallResult) (t : Tetraplet) (ah : Option String) (out : CallOutput) :
    prepareState env (.met m) t ah out = handlePrevState env m t ah out := rfl

theorem callTail_executed_repushed (env : Env) (m : MetCallResult) (t : Tetraplet) (ah : Option String) (out : CallOutput)
    (args : List Value) (v : ValueRef) (hres : m.result = .executed v) (c : Ctx)
    (hok : (callTail env (.met m) t ah out args c).1 = .ok ()) :
    Repushed m.result c (callTail env (.met m) t ah out args c).2 := by
  unfold callTail at hok ⊢
  rw [prepareState_met, bind_apply, handlePrevState_executed env m t ah out v hres c] at hok ⊢
  cases ah with
  | none => simp at hok
  | some h =>
    simp only at hok ⊢
    cases hp : populateFromData env c v h t m.tracePos out m.source with
    | ok c1 =>
      simp only [hp, afterState_noexec_none] at hok ⊢
      have ht : tr c1 = tr c := by unfold tr; rw [(sameButStreams_populateFromData hp).th]
      refine ⟨.executed v, ?_, by rw [hres]; rfl⟩
      unfold updPrevExecuted
      cases v with
      | scalar cid | stream cid g => rw [tr_meetCallEnd, tr_recordCallCid, ht]
      | unused cid => rw [tr_meetCallEnd, ht]
    | error e => simp [hp] at hok
    | panic s => simp [hp] at hok

theorem callTail_pending_repushed (env : Env) (m : MetCallResult) (t : Tetraplet) (ah : Option String) (out : CallOutput)
    (args : List Value) (id : Nat) (c : Ctx) (hres : m.result = .requestSentBy (.peerIdWithCallId c.currentPeerId id))
    (hnone : lookup c.callResults (toString id) = none) :
    (callTail env (.met m) t ah out args c).1 = .ok () ∧
    tr (callTail env (.met m) t ah out args c).2 = tr c ++ [.call m.result] := by
  unfold callTail
  rw [prepareState_met, bind_apply, handlePrevState_own_none env m t ah out id c hres hnone]
  simp only [afterState_noexec_some]
  exact ⟨trivial, rfl⟩

/-- A foreign request: for a call addressed elsewhere it is re-emitted as it is; for a call addressed to
the current peer it is replaced by the peer's own request, or re-emitted while the arguments are still
missing (joinable) — and dropped ONLY when the arguments fail with a non-joinable catchable error
(the known finding), an uncatchable error or a panic. -/
theorem callTail_foreign_request (env : Env) (m : MetCallResult) (t : Tetraplet) (ah : Option String) (out : CallOutput)
    (args : List Value) (c : Ctx) (hres : ForeignRequest c.currentPeerId m.result) :
    let r := callTail env (.met m) t ah out args c
    (t.peerPk ≠ c.currentPeerId → r.1 = .ok () ∧ tr r.2 = tr c ++ [.call m.result]) ∧
    (t.peerPk = c.currentPeerId →
      (∀ c', issueRequest t args c = .ok c' → r.1 = .ok () ∧ ∃ id, tr r.2 = tr c ++ [.call (.requestSentBy (.peerIdWithCallId c.currentPeerId id))]) ∧
      (∀ e, issueRequest t args c = .error e → e.isJoinable = true → r.1 = .error e ∧ tr r.2 = tr c ++ [.call m.result]) ∧
      (∀ e, issueRequest t args c = .error e → e.isJoinable = false → r.1 = .error e ∧ tr r.2 = tr c)) := by
  intro r
  have hcall : r = (handlePrevState env m t ah out >>= fun state => afterState t args state) c := rfl
  rw [bind_apply, handlePrevState_foreign env m t ah out c hres, sentByOther_eq] at hcall
  constructor
  · intro hne
    have : (t.peerPk == c.currentPeerId) = false := by simp [hne]
    simp only [this, Bool.false_eq_true, if_false, afterState_noexec_some] at hcall
    rw [hcall]; exact ⟨rfl, rfl⟩
  · intro hme
    have : (t.peerPk == c.currentPeerId) = true := by simp [hme]
    simp only [this, if_true] at hcall
    have hd : r = dispatch t args (.mk true (some m.result)) c := by rw [hcall]; rfl
    rw [dispatch_local t args m.result c hme] at hd
    refine ⟨?_, ?_, ?_⟩
    · intro c' hi
      rw [hd, hi]
      exact ⟨rfl, tr_issueRequest hi⟩
    · intro e hi hj
      rw [hd, hi]
      simp only [hj, if_true]
      exact ⟨trivial, rfl⟩
    · intro e hi hj
      rw [hd, hi]
      simp only [hj, Bool.false_eq_true, if_false]
      exact ⟨trivial, trivial⟩

end AquaProps
