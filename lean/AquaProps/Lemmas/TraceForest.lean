import Aqua.Trace.WF
/-!
The par forest: inductive specification of `wfPar` (C10)
-/
namespace Aqua.Trace
open Aqua Aqua.Data

/-- a list of `(left, right)` sizes that is the pre-order listing of a forest: every node is followed by exactly
`left` entries forming a forest and then `right` entries forming a forest -/
inductive ForestS : List (Nat × Nat) → Prop
  | nil : ForestS []
  | node (L R rest : List (Nat × Nat)) : ForestS L → ForestS R → ForestS rest →
      ForestS ((L.length, R.length) :: (L ++ R ++ rest))

theorem ForestS.leaf {rest : List (Nat × Nat)} (h : ForestS rest) : ForestS ((0, 0) :: rest) := by
  have := ForestS.node [] [] rest .nil .nil h
  simpa using this

theorem ForestS.append {a b : List (Nat × Nat)} (ha : ForestS a) (hb : ForestS b) : ForestS (a ++ b) := by
  induction ha with
  | nil => simpa using hb
  | node L R rest hL hR _ _ _ ih =>
    have := ForestS.node L R (rest ++ b) hL hR ih
    simpa [List.append_assoc] using this

theorem readForest_zero (fuel : Nat) (t : List (Nat × Nat)) : readForest fuel t 0 = some t := by
  cases fuel <;> cases t <;> rfl

theorem readForest_succ (fuel l r n : Nat) (rest : List (Nat × Nat)) :
    readForest (fuel + 1) ((l, r) :: rest) (n + 1) =
      if l + r ≤ n then
        (readForest fuel rest l).bind fun r1 => (readForest fuel r1 r).bind fun r2 => readForest fuel r2 (n - (l + r))
      else none := rfl

theorem readForest_of_forest {seg : List (Nat × Nat)} (h : ForestS seg) :
    ∀ (fuel : Nat) (rest : List (Nat × Nat)), seg.length < fuel →
      readForest fuel (seg ++ rest) seg.length = some rest := by
  induction h with
  | nil => intro fuel rest _; exact readForest_zero _ _
  | node L R tl _ _ _ ihL ihR ihT =>
    intro fuel rest hf
    simp only [List.length_cons, List.length_append] at hf
    obtain ⟨fuel, rfl, hL, hR, hT⟩ : ∃ f, fuel = f + 1 ∧ L.length < f ∧ R.length < f ∧ tl.length < f :=
      ⟨fuel - 1, by omega⟩
    rw [List.cons_append, List.append_assoc, List.append_assoc, List.length_cons, List.length_append,
      List.length_append, readForest_succ, if_pos (Nat.le_add_right _ _), ihL fuel _ hL, Option.bind_some,
      ihR fuel _ hR, Option.bind_some, Nat.add_sub_cancel_left]
    exact ihT fuel rest hT

theorem wfPar_of_forest (t : Trace) (h : ForestS (t.map parSizes)) : wfPar t = true := by
  unfold wfPar
  have := readForest_of_forest h (t.length + 1) [] (by simp)
  simp only [List.append_nil, List.length_map] at this
  simp [this]

theorem forest_of_readForest : ∀ (fuel : Nat) (t : List (Nat × Nat)) (n : Nat) (rest : List (Nat × Nat)),
    readForest fuel t n = some rest → ∃ seg, t = seg ++ rest ∧ seg.length = n ∧ ForestS seg := by
  intro fuel
  induction fuel with
  | zero =>
    intro t n rest h
    cases n with
    | zero => rw [readForest_zero] at h; cases h; exact ⟨[], rfl, rfl, .nil⟩
    | succ n => cases h
  | succ fuel ih =>
    intro t n rest h
    cases n with
    | zero => rw [readForest_zero] at h; cases h; exact ⟨[], rfl, rfl, .nil⟩
    | succ n =>
      cases t with
      | nil => cases h
      | cons p tl =>
        obtain ⟨l, r⟩ := p
        rw [readForest_succ] at h
        split at h
        · next hle =>
          simp only [Option.bind_eq_some_iff] at h
          obtain ⟨r1, h1, r2, h2, h3⟩ := h
          obtain ⟨L, rfl, rfl, fL⟩ := ih tl _ r1 h1
          obtain ⟨R, rfl, rfl, fR⟩ := ih r1 _ r2 h2
          obtain ⟨T, rfl, lT, fT⟩ := ih r2 _ rest h3
          refine ⟨(L.length, R.length) :: (L ++ R ++ T), by simp only [List.cons_append, List.append_assoc], ?_,
            .node L R T fL fR fT⟩
          simp only [List.length_cons, List.length_append, lT]; omega
        · cases h

theorem wfPar_iff_forest (t : Trace) : wfPar t = true ↔ ForestS (t.map parSizes) := by
  constructor
  · intro h
    unfold wfPar at h
    simp only [beq_iff_eq] at h
    obtain ⟨seg, e, _, f⟩ := forest_of_readForest _ _ _ _ h
    simp only [List.append_nil] at e
    rw [e]; exact f
  · exact wfPar_of_forest t

end Aqua.Trace
