import Aqua.Codec.Varint
/-!
LEB128 (`unsigned-varint`): arithmetic of the 7-bit groups, shared by the `u32` replica of `Aqua.Codec.Varint`
and the `u64` one of `Aqua.Crypto.CidVerify`, and the `u32` round trip.
-/
namespace AquaProps.Lemmas.Varint
open Aqua Aqua.Varint

theorem lor_shift (acc k s : Nat) (h : acc < 2 ^ s) : acc ||| (k <<< s) = acc + k * 2 ^ s := by
  rw [Nat.or_comm, ← Nat.shiftLeft_add_eq_or_of_lt h, Nat.shiftLeft_eq, Nat.add_comm]

theorem pow_succ7 (i : Nat) : 2 ^ ((i + 1) * 7) = 128 * 2 ^ (i * 7) := by
  rw [Nat.add_mul, Nat.pow_add, Nat.mul_comm]

/-- The low group of `n` goes to position `i`, on top of the `i` groups already in `acc`; the other groups of `n`
follow from position `i + 1`. -/
theorem group_step (acc n i : Nat) (hacc : acc < 2 ^ (i * 7)) :
    acc + n % 128 * 2 ^ (i * 7) < 2 ^ ((i + 1) * 7) ∧
    acc + n % 128 * 2 ^ (i * 7) + n / 128 * 2 ^ ((i + 1) * 7) = acc + n * 2 ^ (i * 7) := by
  rw [pow_succ7]
  generalize 2 ^ (i * 7) = P at *
  have hle : n % 128 * P ≤ 127 * P := Nat.mul_le_mul_right _ (by omega)
  have e : n * P = (n / 128 * 128 + n % 128) * P := by congr 1; omega
  rw [e, Nat.add_mul, Nat.mul_assoc]
  omega

/-- a number that needs a further group at position `i + 1` and fits into `w` bits: the position exists -/
theorem group_fits (acc n i w : Nat) (hn : 128 ≤ n) (h : acc + n * 2 ^ (i * 7) < 2 ^ w) : (i + 1) * 7 < w := by
  have : 2 ^ ((i + 1) * 7) ≤ n * 2 ^ (i * 7) := by rw [pow_succ7]; exact Nat.mul_le_mul_right _ hn
  exact (Nat.pow_lt_pow_iff_right (a := 2) (by decide)).mp (by omega)

theorem div128_lt {n fuel : Nat} (h : n < 128 ^ (fuel + 1)) : n / 128 < 128 ^ fuel :=
  Nat.div_lt_of_lt_mul (by rw [Nat.mul_comm, ← Nat.pow_succ]; exact h)

theorem pos_of_lt_pow {n fuel : Nat} (h1 : 1 ≤ n) (h : n < 128 ^ fuel) : 0 < fuel := by
  cases fuel with
  | zero => omega
  | succ _ => omega

theorem toNat_last {n : Nat} (h : n < 128) : (UInt8.ofNat n).toNat = n :=
  UInt8.toNat_ofNat_of_lt' (Nat.lt_trans h (by decide))

theorem toNat_cont (n : Nat) : (UInt8.ofNat (n % 128 + 128)).toNat = n % 128 + 128 :=
  UInt8.toNat_ofNat_of_lt' (Nat.add_lt_add_right (Nat.mod_lt n (by decide)) 128)

theorem decodeGo_encodeGo (fuel : Nat) : ∀ (i acc n : Nat) (rest : Bytes), 0 < fuel → n < 128 ^ fuel →
    acc < 2 ^ (i * 7) → acc + n * 2 ^ (i * 7) < 2 ^ 32 → (0 < i → n ≠ 0) →
    decodeGo 4 i acc (encodeGo fuel n ++ rest) = .ok (acc + n * 2 ^ (i * 7), rest) := by
  induction fuel with
  | zero => intro _ _ _ _ h; omega
  | succ fuel ih =>
    intro i acc n rest _ hn hacc hsum hmin
    obtain ⟨hacc', hval⟩ := group_step acc n i hacc
    unfold encodeGo
    by_cases hlast : n / 128 = 0
    · have hn128 : n < 128 := by omega
      have hmin' : ¬ (n = 0 ∧ i > 0) := fun ⟨h0, hi⟩ => hmin hi h0
      simp only [hlast, if_true, List.singleton_append, decodeGo, Nat.mod_eq_of_lt hn128, toNat_last hn128, lor_shift _ _ _ hacc,
        Nat.mod_eq_of_lt hsum, hn128, hmin', if_false]
    · have h1 : ¬ (n % 128 + 128 < 128) := Nat.not_lt.mpr (Nat.le_add_left _ _)
      have h4 : ¬ (i = 4) := by have := group_fits acc n i 32 (by omega) hsum; omega
      simp only [hlast, if_false, List.cons_append, decodeGo, toNat_cont, Nat.add_mod_right, Nat.mod_mod, lor_shift _ _ _ hacc, h1, h4,
        Nat.mod_eq_of_lt (show acc + n % 128 * 2 ^ (i * 7) < 2 ^ 32 by omega)]
      rw [ih (i + 1) _ (n / 128) rest (pos_of_lt_pow (by omega) (div128_lt hn)) (div128_lt hn) hacc' (by omega) (fun _ => hlast), hval]

theorem encodeU32_roundtrip (n : Nat) (hn : n < 2 ^ 32) (rest : Bytes) :
    decodeU32 (encodeU32 n ++ rest) = .ok (n, rest) := by
  have := decodeGo_encodeGo 5 0 0 n rest (by omega) (by omega) (by omega) (by omega) (by omega)
  simpa [decodeU32, encodeU32] using this

end AquaProps.Lemmas.Varint
