import Aqua.Trace.Handler
import Aqua.Trace.WF
/-!
Every merger / slider operation of `Aqua.Trace.Handler` leaves `DataKeeper.resultTrace` alone; the result trace is
touched only by `pushState` (append), by the two `StateInserter` users (`ParFSM`, `FoldFSM`: append a placeholder,
later `setAt` the reserved position) and by `updateGeneration`.
-/
namespace Aqua.Trace
open Aqua Aqua.Data

variable {k k' : DataKeeper}

theorem nextStates_trace (k : DataKeeper) : (nextStates k).2.2.resultTrace = k.resultTrace := rfl

theorem preparePositionsMapping_trace {s : PreparationScheme}
    (h : preparePositionsMapping s k = .ok k') : k'.resultTrace = k.resultTrace := by
  unfold preparePositionsMapping at h
  cases s <;> simp only [Res.bind_eq_ok, Res.pure_eq_ok] at h
  · obtain ⟨_, _, rfl⟩ := h; rfl
  · obtain ⟨_, _, rfl⟩ := h; rfl
  · obtain ⟨_, _, _, _, rfl⟩ := h; rfl

theorem prepareCallResult_trace {r : CallResult} {s : PreparationScheme} {m}
    (h : prepareCallResult r s k = .ok (m, k')) : k'.resultTrace = k.resultTrace := by
  unfold prepareCallResult at h
  simp only [Res.bind_eq_ok, Res.pure_eq_ok, Prod.mk.injEq] at h
  obtain ⟨_, h1, _, rfl⟩ := h
  exact preparePositionsMapping_trace h1

theorem prepareApMergeResult_trace {g : List Nat} {s : PreparationScheme} {m}
    (h : prepareApMergeResult g s k = .ok (m, k')) : k'.resultTrace = k.resultTrace := by
  unfold prepareApMergeResult at h
  simp only [Res.bind_eq_ok] at h
  obtain ⟨_, h1, h2⟩ := h
  split at h2
  · cases h2; exact preparePositionsMapping_trace h1
  · cases h2

theorem tryMergeNextStateAsCall_trace {r} (h : tryMergeNextStateAsCall k = .ok (r, k')) :
    k'.resultTrace = k.resultTrace := by
  unfold tryMergeNextStateAsCall at h
  simp only at h
  split at h
  · split at h
    · exact (prepareCallResult_trace h).trans (nextStates_trace k)
    · cases h
    · cases h
  · exact (prepareCallResult_trace h).trans (nextStates_trace k)
  · exact (prepareCallResult_trace h).trans (nextStates_trace k)
  · cases h; rfl
  · cases h

theorem tryMergeNextStateAsAp_trace {r} (h : tryMergeNextStateAsAp k = .ok (r, k')) :
    k'.resultTrace = k.resultTrace := by
  unfold tryMergeNextStateAsAp at h
  simp only at h
  split at h
  · exact (prepareApMergeResult_trace h).trans (nextStates_trace k)
  · exact (prepareApMergeResult_trace h).trans (nextStates_trace k)
  · exact (prepareApMergeResult_trace h).trans (nextStates_trace k)
  · cases h; rfl
  · cases h

theorem tryMergeNextStateAsCanon_trace {r} (h : tryMergeNextStateAsCanon k = .ok (r, k')) :
    k'.resultTrace = k.resultTrace := by
  unfold tryMergeNextStateAsCanon at h
  simp only at h
  split at h
  · split at h
    · cases h; rfl
    · cases h
    · cases h
  · cases h; rfl
  · cases h; rfl
  · cases h; rfl
  · cases h

theorem tryMergeNextStateAsPar_trace {p c} (h : tryMergeNextStateAsPar k = .ok (p, c, k')) :
    k'.resultTrace = k.resultTrace := by
  unfold tryMergeNextStateAsPar at h
  simp only at h
  split at h
  · cases h; rfl
  · cases h; rfl
  · cases h; rfl
  · cases h; rfl
  · cases h

theorem tryMergeNextStateAsFold_trace {p c} (h : tryMergeNextStateAsFold k = .ok (p, c, k')) :
    k'.resultTrace = k.resultTrace := by
  unfold tryMergeNextStateAsFold at h
  simp only at h
  split at h
  · simp only [Res.bind_eq_ok, Res.pure_eq_ok] at h
    obtain ⟨_, _, _, _, h⟩ := h; cases h; rfl
  · simp only [Res.bind_eq_ok, Res.pure_eq_ok] at h
    obtain ⟨_, _, h⟩ := h; cases h; rfl
  · simp only [Res.bind_eq_ok, Res.pure_eq_ok] at h
    obtain ⟨_, _, h⟩ := h; cases h; rfl
  · cases h; rfl
  · cases h

theorem updateCtxStates_trace {p : CtxStatesPair} (h : updateCtxStates p k = .ok k') :
    k'.resultTrace = k.resultTrace := by
  unfold updateCtxStates at h
  simp only [Res.bind_eq_ok, Res.pure_eq_ok] at h
  obtain ⟨_, _, _, _, rfl⟩ := h; rfl

theorem parPrepareSliders_trace {f : ParFSM} {t : SubgraphType}
    (h : parPrepareSliders f t k = .ok k') : k'.resultTrace = k.resultTrace := by
  unfold parPrepareSliders at h
  cases t <;> simp only [Res.bind_eq_ok, Res.pure_eq_ok] at h <;> (obtain ⟨_, _, _, _, rfl⟩ := h; rfl)

theorem applyFoldLore_trace {pl cl w} (h : applyFoldLore k pl cl w = .ok k') :
    k'.resultTrace = k.resultTrace := by
  unfold applyFoldLore at h
  simp only [Res.bind_eq_ok, Res.pure_eq_ok] at h
  obtain ⟨_, _, _, _, rfl⟩ := h; rfl

end Aqua.Trace
