import AquaProps.Lemmas.EnvInv
/-!
The stream store under the C17 invariant: every value of every generation of every stream instance is
justified; appending, cursor moves, `new` scopes and compaction keep it so; the slices handed to
stream folds and the snapshot taken by `canon` consist of stored values.
-/
namespace AquaProps
open Aqua Aqua.Exec Aqua.Air Aqua.Trace Aqua.Json Aqua.Data

/-- a list of generations (or of the slices of generations a stream fold iterates over) -/
def SlicesOK (P : TP) (l : List (List ValueAggregate)) : Prop := ∀ g ∈ l, AllAgg P g

def MatrixOK (P : TP) (m : ValuesMatrix) : Prop := ∀ g ∈ m.values, AllAgg P g

structure StreamOK (P : TP) (s : Stream) : Prop where
  prev : MatrixOK P s.prev
  cur : MatrixOK P s.cur
  new : MatrixOK P s.new

def DescsOK (P : TP) (ds : List StreamDesc) : Prop := ∀ d ∈ ds, StreamOK P d.stream

def StreamsOK (P : TP) (l : List (String × List StreamDesc)) : Prop := ∀ e ∈ l, DescsOK P e.2

theorem slicesOK_mono {P Q : TP} (h : ∀ t p, P t p → Q t p) {l : List (List ValueAggregate)} (hs : SlicesOK P l) : SlicesOK Q l :=
  fun g hg => allAgg_mono h (hs g hg)

theorem streamsOK_mono {P Q : TP} (h : ∀ t p, P t p → Q t p) {l : List (String × List StreamDesc)} (hs : StreamsOK P l) : StreamsOK Q l :=
  fun e he d hd => ⟨slicesOK_mono h (hs e he d hd).prev, slicesOK_mono h (hs e he d hd).cur, slicesOK_mono h (hs e he d hd).new⟩

theorem slicesOK_subset {P : TP} {l l' : List (List ValueAggregate)} (hs : SlicesOK P l) (h : l' ⊆ l) : SlicesOK P l' :=
  fun g hg => hs g (h hg)

theorem slicesOK_append {P : TP} {a b : List (List ValueAggregate)} (ha : SlicesOK P a) (hb : SlicesOK P b) : SlicesOK P (a ++ b) :=
  fun g hg => (List.mem_append.mp hg).elim (ha g) (hb g)

theorem allAgg_append {P : TP} {a b : List ValueAggregate} (ha : AllAgg P a) (hb : AllAgg P b) : AllAgg P (a ++ b) :=
  fun v hv => (List.mem_append.mp hv).elim (ha v) (hb v)

theorem allAgg_nil (P : TP) : AllAgg P [] := fun _ h => absurd h List.not_mem_nil

theorem slicesOK_nil (P : TP) : SlicesOK P [] := fun _ h => absurd h List.not_mem_nil

theorem streamOK_empty (P : TP) : StreamOK P {} := ⟨slicesOK_nil P, slicesOK_nil P, slicesOK_nil P⟩

theorem mem_modify {β : Type} (f : β → β) : ∀ (l : List β) (i : Nat) (x : β), x ∈ l.modify i f → x ∈ l ∨ ∃ y ∈ l, x = f y
  | [], i, x, h => by simp at h
  | a :: l, 0, x, h => by
    rcases List.mem_cons.mp h with h | h
    · exact Or.inr ⟨a, List.mem_cons_self, h⟩
    · exact Or.inl (List.mem_cons_of_mem _ h)
  | a :: l, i + 1, x, h => by
    rcases List.mem_cons.mp h with h | h
    · exact Or.inl (h ▸ List.mem_cons_self)
    · rcases mem_modify f l i x h with h1 | ⟨y, hy, h2⟩
      · exact Or.inl (List.mem_cons_of_mem _ h1)
      · exact Or.inr ⟨y, List.mem_cons_of_mem _ hy, h2⟩

theorem matrixOK_addValueToGeneration {P : TP} {m m' : ValuesMatrix} {v : ValueAggregate} {g : Nat} (hm : MatrixOK P m) (hv : AggP P v)
    (h : m.addValueToGeneration v g = .ok m') : MatrixOK P m' := by
  unfold ValuesMatrix.addValueToGeneration at h
  split at h <;> cases h
  -- the padded matrix: old generations and empty ones
  have hbase : SlicesOK P (if g ≥ m.values.length then ValuesMatrix.padTo m.values (g + 1) else m.values) := by
    split
    · exact slicesOK_append hm fun y hy => List.eq_of_mem_replicate hy ▸ allAgg_nil P
    · exact hm
  intro x hx
  rcases mem_modify _ _ _ _ hx with h1 | ⟨y, hy, rfl⟩
  · exact hbase x h1
  · exact allAgg_append (hbase y hy) fun w hw => List.mem_singleton.mp hw ▸ hv

theorem streamOK_addValue {P : TP} {s s' : Stream} {v : ValueAggregate} {g : Generation} (hs : StreamOK P s) (hv : AggP P v)
    (h : s.addValue v g = .ok s') : StreamOK P s' := by
  obtain ⟨s1, hm, h⟩ := Res.bind_eq_ok'.mp h
  split at h <;> cases h
  cases g <;> obtain ⟨m, hm', h⟩ := Res.bind_eq_ok'.mp hm <;> cases h
  · exact ⟨matrixOK_addValueToGeneration hs.prev hv hm', hs.cur, hs.new⟩
  · exact ⟨hs.prev, matrixOK_addValueToGeneration hs.cur hv hm', hs.new⟩
  · exact ⟨hs.prev, hs.cur, matrixOK_addValueToGeneration hs.new hv hm'⟩

theorem stream_all_ok {P : TP} {s : Stream} (hs : StreamOK P s) : AllAgg P s.all := by
  have hall : ∀ {m : ValuesMatrix}, MatrixOK P m → AllAgg P m.all := fun hm v hv =>
    let ⟨g, hg, hvg⟩ := List.mem_flatten.mp hv
    hm g hg v hvg
  exact allAgg_append (allAgg_append (hall hs.prev) (hall hs.cur)) (hall hs.new)

theorem stream_slice_ok {P : TP} {s : Stream} (c : StreamCursor) (hs : StreamOK P s) : SlicesOK P (s.sliceIter c) := by
  have hsl : ∀ {m : ValuesMatrix} (k : Nat), MatrixOK P m → SlicesOK P (m.sliceIter k) := fun k hm =>
    slicesOK_subset hm fun _ hg => (List.mem_filter.mp (List.mem_of_mem_drop hg)).1
  exact slicesOK_append (slicesOK_append (hsl _ hs.prev) (hsl _ hs.cur)) (hsl _ hs.new)

theorem matrixOK_addNewEmpty {P : TP} {m : ValuesMatrix} (hm : MatrixOK P m) : MatrixOK P m.addNewEmptyGeneration :=
  slicesOK_append hm fun _ hg => List.mem_singleton.mp hg ▸ allAgg_nil P

theorem matrixOK_removeLast {P : TP} {m : ValuesMatrix} (hm : MatrixOK P m) : MatrixOK P m.removeLastGeneration :=
  slicesOK_subset hm (List.dropLast_subset _)

theorem matrixOK_removeEmpty {P : TP} {m : ValuesMatrix} (hm : MatrixOK P m) : MatrixOK P m.removeEmptyGenerations :=
  fun g hg => hm g (List.mem_filter.mp hg).1

theorem cursorState_ok {P : TP} {s : Stream} (c : StreamCursor) (hs : StreamOK P s) {l : List (List ValueAggregate)}
    (h : cursorState c s = some l) : SlicesOK P l := by
  unfold cursorState at h
  simp only at h
  split at h <;> cases h
  exact stream_slice_ok c hs

theorem metFoldStart_ok {P : TP} {s : Stream} (hs : StreamOK P s) :
    StreamOK P (metFoldStart s).2.2 ∧ ∀ l, (metFoldStart s).1 = some l → SlicesOK P l := by
  unfold metFoldStart
  simp only
  cases hc : cursorState {} s with
  | none => exact ⟨hs, fun _ hl => nomatch (hl : none = some _)⟩
  | some l0 => exact ⟨⟨hs.prev, hs.cur, matrixOK_addNewEmpty hs.new⟩, fun l hl => cursorState_ok _ hs (hc.trans hl)⟩

theorem metIterationEnd_ok {P : TP} {s : Stream} (c : StreamCursor) (hs : StreamOK P s) :
    StreamOK P (metIterationEnd c s).2.2 ∧ ∀ l, (metIterationEnd c s).1 = some l → SlicesOK P l := by
  unfold metIterationEnd
  refine ⟨?_, fun l hl => cursorState_ok c hs hl⟩
  simp only
  split
  · exact ⟨hs.prev, hs.cur, matrixOK_addNewEmpty (matrixOK_removeLast hs.new)⟩
  · exact ⟨hs.prev, hs.cur, matrixOK_addNewEmpty hs.new⟩

theorem getStream_ok {P : TP} {c : Ctx} {name : String} {pos : Nat} {s : Stream} (hs : StreamsOK P c.streams)
    (h : c.getStream name pos = some s) : StreamOK P s := by
  obtain ⟨ds, hl, h⟩ := Option.bind_eq_some_iff.mp h
  obtain ⟨i, _, h⟩ := Option.bind_eq_some_iff.mp h
  obtain ⟨d, hd, rfl⟩ := Option.map_eq_some_iff.mp h
  exact hs _ (lookup_mem hl) d (List.mem_of_getElem? hd)

theorem setStream_ok {P : TP} {c : Ctx} (name : String) (pos : Nat) {s : Stream} (hs : StreamsOK P c.streams) (h : StreamOK P s) :
    StreamsOK P (c.setStream name pos s).streams := by
  unfold Ctx.setStream
  split
  · exact hs
  · rename_i ds hl
    split
    · exact hs
    · refine forall_mem_upsert hs fun d hd => ?_
      rcases mem_modify _ _ _ _ hd with h1 | ⟨y, _, rfl⟩
      · exact hs _ (lookup_mem hl) d h1
      · exact h

theorem addStreamValue_ok {P : TP} {c c' : Ctx} {v : ValueAggregate} {name : String} {g : Generation} {pos : Nat}
    (hs : StreamsOK P c.streams) (hv : AggP P v) (h : c.addStreamValue v name g pos = .ok c') : StreamsOK P c'.streams := by
  unfold Ctx.addStreamValue at h
  split at h <;> obtain ⟨s', ha, h⟩ := Res.bind_eq_ok.mp h <;> cases h
  · rename_i s hg
    exact setStream_ok name pos hs (streamOK_addValue (getStream_ok hs hg) hv ha)
  · refine forall_mem_upsert hs fun d hd => ?_
    rcases List.mem_cons.mp hd with rfl | hd
    · exact streamOK_addValue (streamOK_empty P) hv ha
    · cases hl : lookup c.streams name with
      | none => simp [hl] at hd
      | some ds => exact hs _ (lookup_mem hl) d (by simpa [hl] using hd)

theorem scopeStart_ok {P : TP} {c : Ctx} (name : String) (l r : Nat) (hs : StreamsOK P c.streams) :
    StreamsOK P (c.streamScopeStart name l r).streams := by
  have hnew : DescsOK P [⟨l, r, {}⟩] := fun d hd => List.mem_singleton.mp hd ▸ streamOK_empty P
  unfold Ctx.streamScopeStart
  split
  · rename_i ds hl
    exact forall_mem_upsert hs fun d hd => (List.mem_append.mp hd).elim (hs _ (lookup_mem hl) d) (hnew d)
  · exact fun e he => (List.mem_append.mp he).elim (hs e) fun h => List.mem_singleton.mp h ▸ hnew

theorem scopeEnd_ok {P : TP} {c c' : Ctx} {name : String} (hs : StreamsOK P c.streams) (h : c.streamScopeEnd name = .ok c') :
    StreamsOK P c'.streams := by
  obtain ⟨ds, _, _, _, hl, _, _, rfl⟩ := streamScopeEnd_eq_ok h
  dsimp only
  split
  · exact fun e he => hs e (List.mem_filter.mp he).1
  · exact forall_mem_upsert hs fun d hd => hs _ (lookup_mem hl) d (List.dropLast_subset _ hd)

end AquaProps
