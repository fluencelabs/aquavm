import AquaProps.Lemmas.TraceFoldWF
/-!
From the batch layout built by the fold FSM to the executable clause `wfFoldAt` (C10).

`wfFoldAt` re-reads the lore the way the merger does: batches are the maximal runs of one value generation.  The
trace handler never looks at generations; that the batches it is driven with are exactly the generation runs
(one generation per `meet_generation_end`, adjacent batches of different generations) is a fact about the
executor's stream iteration (`RecursiveStreamCursor`, `Stream::slice_iter`, `compactify`) and enters as the
hypothesis `GroupsGen`.
-/
namespace Aqua.Trace
open Aqua Aqua.Data

/-- executor-side condition: the values of one batch carry one generation in the trace `t`, adjacent batches
carry different generations (`pg` = generation of the batch before) -/
def GroupsGen (t : Trace) : Option Nat → List (List FoldSubTraceLore) → Prop
  | _, [] => True
  | pg, lb :: rest =>
    ∃ g, (∀ l ∈ lb, valueGeneration t l.valuePos = some g) ∧ pg ≠ some g ∧ GroupsGen t (some g) rest

theorem loreIter_vp {l : FoldSubTraceLore} {it : Iter} (h : loreIter l = some it) : it.vp = l.valuePos := by
  unfold loreIter at h
  split at h
  · simp only [Option.some.injEq] at h; subst h; rfl
  · simp at h

theorem loreIters_batch {t : Trace} {lore : List FoldSubTraceLore} {its : List Iter} {g : Nat}
    (h : lore.mapM loreIter = some its) (hg : ∀ l ∈ lore, valueGeneration t l.valuePos = some g) :
    loreIters t lore = some (its.map fun it => (g, it)) := by
  unfold loreIters
  induction lore generalizing its with
  | nil => simp at h; subst h; simp
  | cons l rest ih =>
    simp only [List.mapM_cons, Option.bind_eq_bind, Option.bind_eq_some_iff, Option.pure_def, Option.some.injEq] at h
    obtain ⟨it, hit, its', hits, rfl⟩ := h
    have hv : valueGeneration t it.vp = some g := by rw [loreIter_vp hit]; exact hg l (by simp)
    simp [List.mapM_cons, hit, hv, ih hits (fun x hx => hg x (by simp [hx]))]

theorem spanGen_batch (g : Nat) (its : List Iter) (rest : List (Nat × Iter))
    (hr : ∀ g' it, rest.head? = some (g', it) → g' ≠ g) :
    spanGen g (its.map (fun it => (g, it)) ++ rest) = (its, rest) := by
  induction its with
  | nil =>
    cases rest with
    | nil => rfl
    | cons p tl =>
      obtain ⟨g', it⟩ := p
      have := hr g' it rfl
      simp [spanGen, this]
  | cons it tl ih => simp [spanGen, ih]

theorem tile_of_batches {t : Trace} {c e : Nat} {lbs : List (List FoldSubTraceLore)} (h : BatchesTile c lbs e) :
    ∀ pg, GroupsGen t pg lbs →
      ∃ gits, loreIters t lbs.flatten = some gits ∧ (∀ fuel, gits.length ≤ fuel → tileLore fuel c gits = some e) ∧
        ∀ g it, gits.head? = some (g, it) → pg ≠ some g := by
  induction h with
  | nil c =>
    intro pg _
    exact ⟨[], by simp [loreIters], fun fuel _ => by cases fuel <;> rfl, fun _ _ h => by simp at h⟩
  | batch c m e lore its rest hits hne hbe _ ih =>
    intro pg hg
    obtain ⟨g, hall, hpg, hrest⟩ := hg
    obtain ⟨gr, hgr, htile, hhead⟩ := ih (some g) hrest
    have hb := loreIters_batch hits hall
    refine ⟨its.map (fun it => (g, it)) ++ gr, ?_, ?_, ?_⟩
    · unfold loreIters at hb hgr ⊢
      rw [List.flatten_cons, List.mapM_append, hb, hgr]; rfl
    · intro fuel hf
      cases its with
      | nil => exact absurd rfl hne
      | cons it1 its' =>
        cases fuel with
        | zero => simp at hf
        | succ fuel =>
          simp only [List.map_cons, List.cons_append, tileLore]
          rw [spanGen_batch g its' gr (fun g' it h => by have := hhead g' it h; intro hh; exact this (by rw [hh]))]
          simp only [hbe, Option.bind_some]
          apply htile
          simp only [List.length_cons, List.length_append, List.length_map] at hf
          omega
    · intro g' it' hh
      cases its with
      | nil => exact absurd rfl hne
      | cons it1 its' =>
        simp only [List.map_cons, List.cons_append, List.head?_cons, Option.some.injEq, Prod.mk.injEq] at hh
        rw [← hh.1]; exact hpg

theorem wfFoldAt_of_batches {t : Trace} {F e : Nat} {lbs : List (List FoldSubTraceLore)}
    (h : BatchesTile (F + 1) lbs e) (hg : GroupsGen t none lbs) (he : e ≤ t.length) :
    wfFoldAt t F lbs.flatten = true := by
  obtain ⟨gits, h1, h2, _⟩ := tile_of_batches h none hg
  unfold wfFoldAt
  rw [h1]
  simp only [h2 gits.length (Nat.le_refl _)]
  simpa using he

end Aqua.Trace
