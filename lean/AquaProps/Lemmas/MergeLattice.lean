import Aqua.Trace.Handler
/-!
Algebra of the per-state merges (`merge_call_results`, `merge_executed`, `merge_canon_results`).

Contents are ordered by information (`Content.le`: a pending request knows nothing, a result knows itself).  A
successful call merge returns one of its two inputs, and that input is an upper bound of both
(`mergeCall_cases`); the merge fails exactly when two results differ.  Idempotence, commutativity up to the sender
of a pending request and associativity then follow from antisymmetry of the order: an upper bound taken from
the inputs is unique.
-/
namespace AquaProps.Merge
open Aqua Aqua.Data Aqua.Trace

/-- the content of a state: what a result is, ignoring who sent a pending request and stream generations -/
inductive Content
  | pending
  | scalar (cid : Cid) | stream (cid : Cid) | unused (cid : Cid)
  | failed (cid : Cid)
deriving DecidableEq, Repr

def contentOf : CallResult → Content
  | .requestSentBy _ => .pending
  | .executed (.scalar c) => .scalar c
  | .executed (.stream c _) => .stream c
  | .executed (.unused c) => .unused c
  | .failed c => .failed c

def Content.le (a b : Content) : Prop := a = .pending ∨ a = b

namespace Content

theorem le_refl (a : Content) : a.le a := .inr rfl

theorem le_trans {a b c : Content} (h1 : a.le b) (h2 : b.le c) : a.le c := by
  rcases h1 with h | rfl
  · exact .inl h
  · exact h2

theorem le_antisymm {a b : Content} (h1 : a.le b) (h2 : b.le a) : a = b := by
  rcases h1 with rfl | h
  · rcases h2 with h | h <;> exact h.symm
  · exact h

end Content

def isResult (c : CallResult) : Prop := contentOf c ≠ .pending

instance (c : CallResult) : Decidable (isResult c) := by unfold isResult; exact inferInstance

theorem eq_request_of_not_isResult {c : CallResult} (h : ¬ isResult c) : ∃ s, c = .requestSentBy s := by
  cases c with
  | requestSentBy s => exact ⟨s, rfl⟩
  | executed v => cases v <;> exact absurd (by simp [isResult, contentOf]) h
  | failed f => exact absurd (by simp [isResult, contentOf]) h

def vcontent : ValueRef → Content
  | .scalar c => .scalar c
  | .stream c _ => .stream c
  | .unused c => .unused c

theorem contentOf_executed (v : ValueRef) : contentOf (.executed v) = vcontent v := by cases v <;> rfl

theorem mergeExecuted_eq (pv cv : ValueRef) :
    mergeExecuted pv cv = if vcontent pv = vcontent cv then .ok (.executed pv) else .error .notEqualValues := by
  cases pv <;> cases cv <;> simp [mergeExecuted, vcontent]

theorem mergeCall_pending_right (p : CallResult) (s : Sender) :
    mergeCallResults p (.requestSentBy s) = .ok (p, .previous) := by
  cases p <;> rfl

theorem mergeCall_pending_left (s : Sender) {c : CallResult} (hc : isResult c) :
    mergeCallResults (.requestSentBy s) c = .ok (c, .current) := by
  cases c with
  | requestSentBy _ => exact absurd rfl hc
  | executed _ => rfl
  | failed _ => rfl

theorem mergeCall_results {p c : CallResult} (hp : isResult p) (hc : isResult c) :
    ∃ s e, mergeCallResults p c = if contentOf p = contentOf c then .ok (p, s) else .error e := by
  cases p with
  | requestSentBy _ => exact absurd rfl hp
  | executed pv =>
    cases c with
    | requestSentBy _ => exact absurd rfl hc
    | executed cv =>
      refine ⟨.both, .notEqualValues, ?_⟩
      rw [contentOf_executed, contentOf_executed]
      simp only [mergeCallResults, mergeExecuted_eq]
      split <;> rfl
    | failed cf => exact ⟨.both, .incompatibleCalls, by cases pv <;> simp [mergeCallResults, contentOf]⟩
  | failed pf =>
    cases c with
    | requestSentBy _ => exact absurd rfl hc
    | executed cv => exact ⟨.both, .incompatibleCalls, by cases cv <;> simp [mergeCallResults, contentOf]⟩
    | failed cf =>
      refine ⟨.previous, .incompatibleCalls, ?_⟩
      simp only [mergeCallResults, contentOf, Content.failed.injEq, CallResult.failed.injEq]

theorem mergeCall_cases (p c : CallResult) :
    (∃ m s, mergeCallResults p c = .ok (m, s) ∧ (m = p ∨ m = c) ∧
      (contentOf p).le (contentOf m) ∧ (contentOf c).le (contentOf m)) ∨
    (∃ e, mergeCallResults p c = .error e ∧ isResult p ∧ isResult c ∧ contentOf p ≠ contentOf c) := by
  by_cases hc : isResult c
  · by_cases hp : isResult p
    · obtain ⟨s, e, h⟩ := mergeCall_results hp hc
      by_cases he : contentOf p = contentOf c
      · exact .inl ⟨p, s, by rw [h, if_pos he], .inl rfl, Content.le_refl _, .inr he.symm⟩
      · exact .inr ⟨e, by rw [h, if_neg he], hp, hc, he⟩
    · obtain ⟨s, rfl⟩ := eq_request_of_not_isResult hp
      exact .inl ⟨c, .current, mergeCall_pending_left s hc, .inr rfl, .inl rfl, Content.le_refl _⟩
  · obtain ⟨s, rfl⟩ := eq_request_of_not_isResult hc
    exact .inl ⟨p, .previous, mergeCall_pending_right p s, .inl rfl, Content.le_refl _, .inl rfl⟩

theorem mergeCall_upper (p c m : CallResult) (s : PreparationScheme) (h : mergeCallResults p c = .ok (m, s)) :
    (contentOf p).le (contentOf m) ∧ (contentOf c).le (contentOf m) ∧ (m = p ∨ m = c) := by
  rcases mergeCall_cases p c with ⟨m', s', h', hm, hp, hc⟩ | ⟨e, h', _⟩
  · cases h.symm.trans h'; exact ⟨hp, hc, hm⟩
  · cases h.symm.trans h'

theorem mergeCall_error_only_on_conflict (p c : CallResult) (e : MergeErr) (h : mergeCallResults p c = .error e) :
    isResult p ∧ isResult c ∧ contentOf p ≠ contentOf c := by
  rcases mergeCall_cases p c with ⟨m', s', h', _⟩ | ⟨e, h', r⟩
  · cases h.symm.trans h'
  · exact r

theorem mergeCall_no_panic (p c : CallResult) (site : String) : mergeCallResults p c ≠ .panic site := by
  intro h
  rcases mergeCall_cases p c with ⟨m', s', h', _⟩ | ⟨e, h', _⟩ <;> cases h.symm.trans h'

theorem mergeCall_ok_of_compatible (p c : CallResult)
    (h : ¬ (isResult p ∧ isResult c ∧ contentOf p ≠ contentOf c)) : ∃ m s, mergeCallResults p c = .ok (m, s) := by
  rcases mergeCall_cases p c with ⟨m, s, h', _⟩ | ⟨e, _, r⟩
  · exact ⟨m, s, h'⟩
  · exact absurd r h

theorem mergeCall_idem (x : CallResult) : ∃ s, mergeCallResults x x = .ok (x, s) := by
  obtain ⟨m, s, h⟩ := mergeCall_ok_of_compatible x x fun ⟨_, _, hne⟩ => hne rfl
  obtain rfl : m = x := (mergeCall_upper x x m s h).2.2.elim id id
  exact ⟨s, h⟩

theorem mergeCall_keeps_results (p c m : CallResult) (s : PreparationScheme) (h : mergeCallResults p c = .ok (m, s)) :
    (isResult p → contentOf m = contentOf p) ∧ (isResult c → contentOf m = contentOf c) := by
  obtain ⟨hp, hc, _⟩ := mergeCall_upper p c m s h
  exact ⟨fun hr => (hp.resolve_left hr).symm, fun hr => (hc.resolve_left hr).symm⟩

theorem mergeCall_content_unique {p c m m' : CallResult} {s s' : PreparationScheme}
    (h : mergeCallResults p c = .ok (m, s)) (h' : mergeCallResults c p = .ok (m', s')) :
    contentOf m = contentOf m' := by
  obtain ⟨hp, hc, hm⟩ := mergeCall_upper p c m s h
  obtain ⟨hc', hp', hm'⟩ := mergeCall_upper c p m' s' h'
  exact Content.le_antisymm (hm.elim (· ▸ hp') (· ▸ hc')) (hm'.elim (· ▸ hc) (· ▸ hp))

theorem mergeCall_comm (p c : CallResult) :
    (∀ m s, mergeCallResults p c = .ok (m, s) → ∃ m' s', mergeCallResults c p = .ok (m', s') ∧ contentOf m' = contentOf m) ∧
    (∀ e, mergeCallResults p c = .error e → ∃ e', mergeCallResults c p = .error e') := by
  constructor
  · intro m s h
    have hk := mergeCall_keeps_results p c m s h
    obtain ⟨m', s', h'⟩ := mergeCall_ok_of_compatible c p
      fun ⟨hc, hp, hne⟩ => hne ((hk.2 hc).symm.trans (hk.1 hp))
    exact ⟨m', s', h', (mergeCall_content_unique h h').symm⟩
  · intro e h
    obtain ⟨hp, hc, hne⟩ := mergeCall_error_only_on_conflict p c e h
    rcases mergeCall_cases c p with ⟨m, s, h', _⟩ | ⟨e', h', _⟩
    · have hk := mergeCall_keeps_results c p m s h'
      exact absurd ((hk.2 hp).symm.trans (hk.1 hc)) hne
    · exact ⟨e', h'⟩

theorem mergeCall_assoc (a b c ab abc bc abc' : CallResult) (s1 s2 s3 s4 : PreparationScheme)
    (h1 : mergeCallResults a b = .ok (ab, s1)) (h2 : mergeCallResults ab c = .ok (abc, s2))
    (h3 : mergeCallResults b c = .ok (bc, s3)) (h4 : mergeCallResults a bc = .ok (abc', s4)) :
    contentOf abc = contentOf abc' := by
  obtain ⟨a1, b1, m1⟩ := mergeCall_upper a b ab s1 h1
  obtain ⟨ab2, c2, m2⟩ := mergeCall_upper ab c abc s2 h2
  obtain ⟨b3, c3, m3⟩ := mergeCall_upper b c bc s3 h3
  obtain ⟨a4, bc4, m4⟩ := mergeCall_upper a bc abc' s4 h4
  apply Content.le_antisymm
  · rcases m2 with rfl | rfl
    · rcases m1 with rfl | rfl
      · exact a4
      · exact Content.le_trans b3 bc4
    · exact Content.le_trans c3 bc4
  · rcases m4 with rfl | rfl
    · exact Content.le_trans a1 ab2
    · rcases m3 with rfl | rfl
      · exact Content.le_trans b1 ab2
      · exact c2

def canonContent : CanonResult → Option Cid
  | .requestSentBy _ => none
  | .executed c => some c

theorem mergeCanon_idem (x : CanonResult) : mergeCanonResults x x = .ok x := by
  cases x <;> simp [mergeCanonResults]

theorem mergeCanon_keeps (p c m : CanonResult) (h : mergeCanonResults p c = .ok m) :
    (m = p ∨ m = c) ∧ (∀ x, canonContent p = some x → canonContent m = some x) ∧ (∀ x, canonContent c = some x → canonContent m = some x) := by
  cases p <;> cases c <;> simp only [mergeCanonResults] at h
  · cases h; simp [canonContent]
  · cases h; simp [canonContent]
  · cases h; simp [canonContent]
  · split at h
    · next heq => cases h; cases heq; simp
    · cases h

theorem mergeCanon_rejects_two_results (a b : Cid) (h : a ≠ b) :
    mergeCanonResults (.executed a) (.executed b) = .error .incorrectCanonResult := by
  simp [mergeCanonResults, h]

theorem mergeCanon_error_only_on_conflict (p c : CanonResult) (e : MergeErr) (h : mergeCanonResults p c = .error e) :
    ∃ a b, p = .executed a ∧ c = .executed b ∧ a ≠ b := by
  rcases p with _ | a <;> rcases c with _ | b <;> simp only [mergeCanonResults] at h
  · cases h
  · cases h
  · cases h
  · exact ⟨a, b, rfl, rfl, fun heq => by rw [if_pos heq] at h; cases h⟩

end AquaProps.Merge
