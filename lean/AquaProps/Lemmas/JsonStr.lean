import AquaProps.Lemmas.JsonFuel
/-! String escaping (`escapeChar`, serde_json's `format_escaped_str`) is undone by `parseStrChars`
(`parse_str_bytes` + `parse_escape`), for every character. -/
namespace AquaProps.JsonLemmas
open Aqua.Json

theorem hexVal_hexDigit : ∀ k, k < 16 → hexVal (hexDigit k) = some k := by decide

theorem char_eq_of_toNat (c : Char) (n : Nat) (h : c.toNat = n) : c = Char.ofNat n := by
  rw [← h, Char.ofNat_toNat]

theorem parseStrChars_quote (cs : List Char) : parseStrChars ('"' :: cs) = .ok ([], cs) := by
  rw [parseStrChars]; simp

theorem parseStrChars_backslash (cs : List Char) (ch : Char) (rest : List Char) (h : parseEscape cs = some (ch, rest)) :
    parseStrChars ('\\' :: cs) = consChar ch (parseStrChars rest) := by
  rw [parseStrChars]
  simp only [show ('\\' : Char) ≠ '"' by decide, if_false, if_true]
  split
  · rename_i h'; rw [h] at h'; exact absurd h' (by simp)
  · rename_i ch' rest' h'; rw [h] at h'; simp only [Option.some.injEq, Prod.mk.injEq] at h'; obtain ⟨rfl, rfl⟩ := h'; rfl

theorem parseStrChars_plain (c : Char) (cs : List Char) (h1 : c ≠ '"') (h2 : c ≠ '\\') (h3 : ¬ c.toNat < 32) :
    parseStrChars (c :: cs) = consChar c (parseStrChars cs) := by
  rw [parseStrChars]; simp [h1, h2, h3]

theorem parseEscape_simple (e ch : Char) (cs : List Char) (hu : e ≠ 'u') (h : simpleEscape e = some ch) :
    parseEscape (e :: cs) = some (ch, cs) := by
  simp [parseEscape, hu, h]

theorem parseEscape_control (c : Char) (h : c.toNat < 32) (tail : List Char) :
    parseEscape ('u' :: '0' :: '0' :: hexDigit (c.toNat / 16) :: hexDigit (c.toNat % 16) :: tail) = some (c, tail) := by
  have hx : hex4 '0' '0' (hexDigit (c.toNat / 16)) (hexDigit (c.toNat % 16)) = some c.toNat := by
    simp only [hex4, show hexVal '0' = some 0 by decide, hexVal_hexDigit _ (show c.toNat / 16 < 16 by omega),
      hexVal_hexDigit _ (Nat.mod_lt _ (by decide))]
    congr 1; omega
  have hc : charFromU32 c.toNat = some c := by
    unfold charFromU32
    rw [if_pos (.inl (by omega)), Char.ofNat_toNat]
  simp only [parseEscape, if_true, hx, show ¬ (0xDC00 ≤ c.toNat ∧ c.toNat ≤ 0xDFFF) by omega,
    show ¬ (0xD800 ≤ c.toNat ∧ c.toNat ≤ 0xDBFF) by omega, if_false, hc]

theorem parseStrChars_escapeChar (c : Char) (tail : List Char) :
    parseStrChars (escapeChar c ++ tail) = consChar c (parseStrChars tail) := by
  have simple : ∀ e, e ≠ 'u' → simpleEscape e = some c →
      parseStrChars ('\\' :: e :: tail) = consChar c (parseStrChars tail) :=
    fun e hu he => parseStrChars_backslash _ _ _ (parseEscape_simple e c tail hu he)
  fun_cases escapeChar c
  · exact simple '"' (by decide) (by rw [‹c = _›]; rfl)
  · exact simple '\\' (by decide) (by rw [‹c = _›]; rfl)
  · exact simple 'b' (by decide) (by rw [char_eq_of_toNat c 8 ‹_›]; rfl)
  · exact simple 'f' (by decide) (by rw [char_eq_of_toNat c 12 ‹_›]; rfl)
  · exact simple 'n' (by decide) (by rw [‹c = _›]; rfl)
  · exact simple 'r' (by decide) (by rw [‹c = _›]; rfl)
  · exact simple 't' (by decide) (by rw [‹c = _›]; rfl)
  · exact parseStrChars_backslash _ _ _ (parseEscape_control c ‹_› tail)
  · exact parseStrChars_plain c tail ‹_› ‹_› ‹_›

theorem parseStrChars_escape (s : List Char) (rest : List Char) :
    parseStrChars (s.flatMap escapeChar ++ '"' :: rest) = .ok (s, rest) := by
  induction s with
  | nil => simp [parseStrChars_quote]
  | cons c cs ih =>
    simp only [List.flatMap_cons, List.append_assoc]
    rw [parseStrChars_escapeChar, ih]; rfl

theorem renderStr_toList (s : String) : (renderStr s).toList = '"' :: (s.toList.flatMap escapeChar ++ ['"']) := by
  unfold renderStr; simp

theorem parseStr_renderStr (s : String) (rest : List Char) :
    parseStr (s.toList.flatMap escapeChar ++ '"' :: rest) = .ok (s, rest) := by
  unfold parseStr; rw [parseStrChars_escape]; simp

end AquaProps.JsonLemmas
