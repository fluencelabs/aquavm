import AquaProps.Lemmas.TraceFoldOps
import AquaProps.Lemmas.TraceForest
/-!
`StateInserter` invariant: a reserved position is rewritten only by the FSM that reserved it.  For the forest
reading only the `(left, right)` sizes matter (`parSizes`): every operation other than the closing
`meetParSubgraphEnd right` either leaves the list of sizes alone or appends a leaf.
-/
namespace Aqua.Trace
open Aqua Aqua.Data

def TraceHandler.sizes (h : TraceHandler) : List (Nat × Nat) := h.tr.map parSizes

def HOp.isPar : HOp → Bool
  | .parStart => true
  | .parEnd _ => true
  | _ => false

/-- reserved positions: those of open pars are inside the trace; those of open folds hold a leaf and are not the
position of an open par -/
structure ParInv (h : TraceHandler) : Prop where
  parLt : ∀ g ∈ h.parStack, g.inserterPos < h.tr.length
  foldUnit : ∀ id f, h.fsm id = some f →
    h.sizes[f.inserterPos]? = some (0, 0) ∧ ∀ g ∈ h.parStack, g.inserterPos ≠ f.inserterPos

/-- what an operation other than `parStart`/`parEnd` does to the shape -/
structure ShapeEff (h h' : TraceHandler) : Prop where
  stack : h'.parStack = h.parStack
  sizes : h'.sizes = h.sizes ∨ h'.sizes = h.sizes ++ [(0, 0)]
  fsms : ∀ id f', h'.fsm id = some f' →
    (∃ f, h.fsm id = some f ∧ f'.inserterPos = f.inserterPos) ∨
    (f'.inserterPos = h.tr.length ∧ h'.sizes = h.sizes ++ [(0, 0)])

theorem sizes_length (h : TraceHandler) : h.sizes.length = h.tr.length := List.length_map _

variable {h h' : TraceHandler}

theorem sizes_of_tr (ht : h'.tr = h.tr) : h'.sizes = h.sizes := congrArg (List.map parSizes) ht

theorem sizes_push {s : ExecutedState} (ht : h'.tr = h.tr ++ [s]) :
    h'.sizes = h.sizes ++ [parSizes s] := by
  simp [TraceHandler.sizes, ht]

theorem sizes_setAt {p : Nat} {s : ExecutedState} (ht : h'.tr = setAt h.tr p s) :
    h'.sizes = h.sizes.set p (parSizes s) := by
  rw [TraceHandler.sizes, ht, setAt, List.map_set]; rfl

namespace ParInv

theorem of_shapeEff (g : ParInv h) (e : ShapeEff h h') : ParInv h' := by
  have hlen : h.tr.length ≤ h'.tr.length := by
    rw [← sizes_length, ← sizes_length]
    rcases e.sizes with hs | hs <;> rw [hs] <;> simp
  constructor
  · intro p hp
    rw [e.stack] at hp
    exact Nat.lt_of_lt_of_le (g.parLt p hp) hlen
  · intro id f' hf'
    rw [e.stack]
    rcases e.fsms id f' hf' with ⟨f, hf, hip⟩ | ⟨hip, hs⟩
    · obtain ⟨hu, hne⟩ := g.foldUnit id f hf
      rw [hip]
      refine ⟨?_, hne⟩
      rcases e.sizes with hs | hs <;> rw [hs]
      · exact hu
      · rw [List.getElem?_append_left (lt_of_getElem?_eq_some hu)]; exact hu
    · rw [hip, hs, ← sizes_length]
      exact ⟨by simp, fun p hp => Nat.ne_of_lt (sizes_length h ▸ g.parLt p hp)⟩

theorem parStart (g : ParInv h) (e : h.meetParStart = .ok h') : ParInv h' := by
  obtain ⟨f, hst, hip, _, ht, hfm⟩ := meetParStart_eff e
  have hsz : h'.sizes = h.sizes ++ [(0, 0)] := sizes_push ht
  have hlen : h'.tr.length = h.tr.length + 1 := by rw [ht, List.length_append]; rfl
  constructor
  · intro p hp
    rw [hst] at hp
    rcases List.mem_cons.mp hp with rfl | hp
    · omega
    · have := g.parLt p hp; omega
  · intro id f2 hf2
    rw [TraceHandler.fsm, hfm] at hf2
    obtain ⟨hu, hne⟩ := g.foldUnit id f2 hf2
    have hlt := lt_of_getElem?_eq_some hu
    refine ⟨by rw [hsz, List.getElem?_append_left hlt]; exact hu, fun p hp => ?_⟩
    rw [hst] at hp
    rcases List.mem_cons.mp hp with rfl | hp
    · rw [hip, ← sizes_length]; omega
    · exact hne p hp

theorem parEndLeft (g : ParInv h) (e : h.meetParSubgraphEnd .left = .ok h') :
    ParInv h' := by
  obtain ⟨f, rest, hst, hst', ht, hfm⟩ := meetParSubgraphEnd_left_eff e
  -- `track` keeps the reserved position, so the positions of the open pars are the same
  have hmem : ∀ p ∈ h'.parStack, ∃ q ∈ h.parStack, q.inserterPos = p.inserterPos := by
    intro p hp
    rw [hst'] at hp; rw [hst]
    rcases List.mem_cons.mp hp with rfl | hp
    · exact ⟨f, List.mem_cons_self, rfl⟩
    · exact ⟨p, List.mem_cons_of_mem _ hp, rfl⟩
  constructor
  · intro p hp
    obtain ⟨q, hq, hpq⟩ := hmem p hp
    rw [ht, ← hpq]; exact g.parLt q hq
  · intro id f2 hf2
    rw [TraceHandler.fsm, hfm] at hf2
    obtain ⟨hu, hne⟩ := g.foldUnit id f2 hf2
    refine ⟨by rw [sizes_of_tr ht]; exact hu, fun p hp => ?_⟩
    obtain ⟨q, hq, hpq⟩ := hmem p hp
    rw [← hpq]; exact hne q hq

theorem parEndRight (g : ParInv h) (e : h.meetParSubgraphEnd .right = .ok h') :
    ParInv h' := by
  obtain ⟨f, rest, hst, hst', ht, hfm⟩ := meetParSubgraphEnd_right_eff e
  have hsub : ∀ p ∈ h'.parStack, p ∈ h.parStack := fun p hp => by
    rw [hst]; exact List.mem_cons_of_mem _ (hst' ▸ hp)
  constructor
  · intro p hp
    rw [ht, setAt, List.length_set]; exact g.parLt p (hsub p hp)
  · intro id f2 hf2
    rw [TraceHandler.fsm, hfm] at hf2
    obtain ⟨hu, hne⟩ := g.foldUnit id f2 hf2
    refine ⟨?_, fun p hp => hne p (hsub p hp)⟩
    -- the rewritten position is that of the par just closed, not that of an open fold
    rw [sizes_setAt ht, List.getElem?_set_ne (hne f (hst ▸ List.mem_cons_self))]; exact hu

end ParInv

end Aqua.Trace
