import Aqua.Codec.MsgPack
/-!
MessagePack value algebra: the decoder undoes the encoder on every well-formed value (`WF`: lengths below
2^32, integers in `[-2^63, 2^64)`, float bit patterns and ext types in range), leaving the rest of the buffer
untouched (so encodings are prefix-free and can be sequenced).
-/
namespace AquaProps.Lemmas.MsgPack
open Aqua Aqua.MsgPack

mutual
def WF : Val → Prop
  | .nil => True
  | .bool _ => True
  | .int i => -(2 ^ 63) ≤ i ∧ i < 2 ^ 64
  | .f32 b => b < 2 ^ 32
  | .f64 b => b < 2 ^ 64
  | .str s => s.length < 2 ^ 32
  | .bin b => b.length < 2 ^ 32
  | .arr l => l.length < 2 ^ 32 ∧ WFList l
  | .map l => l.length < 2 ^ 32 ∧ WFPairs l
  | .ext ty d => ty < 256 ∧ d.length < 2 ^ 32
def WFList : List Val → Prop
  | [] => True
  | v :: vs => WF v ∧ WFList vs
def WFPairs : List (Val × Val) → Prop
  | [] => True
  | (k, v) :: kvs => WF k ∧ WF v ∧ WFPairs kvs
end

mutual
/-- fuel that `decode` needs for a value -/
def sz : Val → Nat
  | .arr l => 1 + szList l
  | .map l => 1 + szPairs l
  | _ => 1
def szList : List Val → Nat
  | [] => 1
  | v :: vs => 1 + max (sz v) (szList vs)
def szPairs : List (Val × Val) → Nat
  | [] => 1
  | (k, v) :: kvs => 1 + max (max (sz k) (sz v)) (szPairs kvs)
end

theorem length_beBytes (k n : Nat) : (beBytes k n).length = k := by
  induction k with
  | zero => rfl
  | succ k ih => simp [beBytes, ih]

theorem beNat_beBytes (k n : Nat) : beNat (beBytes k n) = n % 256 ^ k := by
  induction k with
  | zero => simp [beBytes, beNat, Nat.mod_one]
  | succ k ih =>
    simp only [beBytes, beNat, length_beBytes, ih, UInt8.toNat_ofNat']
    have h8 : n / 256 ^ k % 256 % 2 ^ 8 = n / 256 ^ k % 256 := by omega
    rw [h8, Nat.mod_pow_succ (x := n) (b := 256) (k := k), Nat.mul_comm, Nat.add_comm]

theorem take?_append (l rest : Bytes) (k : Nat) (h : l.length = k) : take? k (l ++ rest) = some (l, rest) := by
  subst h
  simp [take?]

/-- what `decode` does behind a marker that is followed by a `k`-byte big-endian number (its local `lenThen`) -/
def lenThen (k : Nat) (f : Nat → Bytes → Option (Val × Bytes)) (b : Bytes) : Option (Val × Bytes) :=
  match take? k b with
  | none => none
  | some (lb, r) => f (beNat lb) r

theorem lenThen_be {k n : Nat} (hn : n < 256 ^ k) (f : Nat → Bytes → Option (Val × Bytes)) (rest : Bytes) :
    lenThen k f (beBytes k n ++ rest) = f n rest := by
  simp only [lenThen, take?_append _ _ _ (length_beBytes k n), beNat_beBytes, Nat.mod_eq_of_lt hn]

/-- A marker `m` whose entry in the decoder's table is `lenThen k f` (at a concrete `m` that is `rfl`: the
decoder evaluates), followed by `n` on `k` bytes. -/
theorem decode_marker_be {fuel k n : Nat} {m : UInt8} {f : Nat → Bytes → Option (Val × Bytes)}
    (hm : ∀ b, decode (fuel + 1) (m :: b) = lenThen k f b) (hn : n < 256 ^ k) (rest : Bytes) :
    decode (fuel + 1) (m :: beBytes k n ++ rest) = f n rest := by
  rw [List.cons_append, hm, lenThen_be hn]

section
variable (t : UInt8) (rest : Bytes) (fuel : Nat)

theorem decode_posfixint (h : t.toNat < 0x80) : decode (fuel + 1) (t :: rest) = some (.int t.toNat, rest) :=
  if_pos h

theorem decode_fixmap (h1 : 0x80 ≤ t.toNat) (h2 : t.toNat < 0x90) :
    decode (fuel + 1) (t :: rest) = (decodePairs fuel (t.toNat - 0x80) rest).map fun (l, r) => (.map l, r) :=
  (if_neg (by omega)).trans (if_pos h2)

theorem decode_fixarr (h1 : 0x90 ≤ t.toNat) (h2 : t.toNat < 0xa0) :
    decode (fuel + 1) (t :: rest) = (decodeList fuel (t.toNat - 0x90) rest).map fun (l, r) => (.arr l, r) :=
  (if_neg (by omega)).trans ((if_neg (by omega)).trans (if_pos h2))

theorem decode_fixstr (h1 : 0xa0 ≤ t.toNat) (h2 : t.toNat < 0xc0) :
    decode (fuel + 1) (t :: rest) = (take? (t.toNat - 0xa0) rest).map fun (s, r) => (.str s, r) :=
  (if_neg (by omega)).trans ((if_neg (by omega)).trans ((if_neg (by omega)).trans (if_pos h2)))

theorem decode_negfixint (h : 0xe0 ≤ t.toNat) : decode (fuel + 1) (t :: rest) = some (.int ((t.toNat : Int) - 256), rest) :=
  (if_neg (by omega)).trans ((if_neg (by omega)).trans ((if_neg (by omega)).trans ((if_neg (by omega)).trans (if_pos h))))

end

theorem toNat_ofNat {m : Nat} (h : m < 256) : (UInt8.ofNat m).toNat = m := UInt8.toNat_ofNat_of_lt' h

theorem toSigned_wrap (bits : Nat) (hb : 0 < bits) (i : Int) (h1 : i ≥ -(2 ^ (bits - 1))) (h2 : ¬ i ≥ 0) :
    toSigned bits (2 ^ bits + i).toNat = i := by
  obtain ⟨b, rfl⟩ := Nat.exists_eq_succ_of_ne_zero (Nat.ne_of_gt hb)
  unfold toSigned
  simp only [Nat.succ_eq_add_one, Nat.add_sub_cancel] at h1 ⊢
  have hp : (2 : Int) ^ (b + 1) = 2 * 2 ^ b := by rw [Int.pow_succ]; omega
  have hc : ((2 ^ b : Nat) : Int) = 2 ^ b := by simp
  generalize (2 : Int) ^ b = p at *
  generalize (2 : Nat) ^ b = q at *
  rw [hp]
  split <;> omega

/-- `g` is the identity or `toSigned` -/
theorem decode_int_be {fuel k n : Nat} {m : UInt8} {g : Nat → Int}
    (hm : ∀ b, decode (fuel + 1) (m :: b) = lenThen k (fun n r => some (.int (g n), r)) b) (hn : n < 256 ^ k)
    {i : Int} (hg : g n = i) (rest : Bytes) :
    decode (fuel + 1) (m :: beBytes k n ++ rest) = some (.int i, rest) := by
  rw [decode_marker_be hm hn, hg]

theorem decode_int (i : Int) (h : -(2 ^ 63) ≤ i ∧ i < 2 ^ 64) (rest : Bytes) (fuel : Nat) :
    decode (fuel + 1) (encInt i ++ rest) = some (.int i, rest) := by
  fun_cases encInt i
  · show decode (fuel + 1) ([UInt8.ofNat i.toNat] ++ rest) = _
    have e := toNat_ofNat (m := i.toNat) (by omega)
    rw [List.singleton_append, decode_posfixint _ _ _ (by omega), e, Int.toNat_of_nonneg ‹_›]
  · exact decode_int_be (g := Nat.cast) (fun _ => rfl) (by omega) (Int.toNat_of_nonneg ‹_›) rest
  · exact decode_int_be (g := Nat.cast) (fun _ => rfl) (by omega) (Int.toNat_of_nonneg ‹_›) rest
  · exact decode_int_be (g := Nat.cast) (fun _ => rfl) (by omega) (Int.toNat_of_nonneg ‹_›) rest
  · exact decode_int_be (g := Nat.cast) (fun _ => rfl) (by omega) (Int.toNat_of_nonneg ‹_›) rest
  · have e := toNat_ofNat (m := (256 + i).toNat) (by omega)
    rw [List.singleton_append, decode_negfixint _ _ _ (by omega), e]
    congr 3; omega
  · exact decode_int_be (g := toSigned 8) (fun _ => rfl) (by omega) (toSigned_wrap 8 (by decide) i ‹_› ‹_›) rest
  · exact decode_int_be (g := toSigned 16) (fun _ => rfl) (by omega) (toSigned_wrap 16 (by decide) i ‹_› ‹_›) rest
  · exact decode_int_be (g := toSigned 32) (fun _ => rfl) (by omega) (toSigned_wrap 32 (by decide) i ‹_› ‹_›) rest
  · exact decode_int_be (g := toSigned 64) (fun _ => rfl) (by omega) (toSigned_wrap 64 (by decide) i h.1 ‹_›) rest

theorem decode_f32 (b : Nat) (h : b < 2 ^ 32) (rest : Bytes) (fuel : Nat) :
    decode (fuel + 1) ((0xca : UInt8) :: beBytes 4 b ++ rest) = some (.f32 b, rest) := by
  apply decode_marker_be
  · intro _; rfl
  · omega

theorem decode_f64 (b : Nat) (h : b < 2 ^ 64) (rest : Bytes) (fuel : Nat) :
    decode (fuel + 1) ((0xcb : UInt8) :: beBytes 8 b ++ rest) = some (.f64 b, rest) := by
  apply decode_marker_be
  · intro _; rfl
  · omega

theorem decode_strHeader (n : Nat) (h : n < 2 ^ 32) (b : Bytes) (fuel : Nat) :
    decode (fuel + 1) (strHeader n ++ b) = (take? n b).map fun (s, r) => (.str s, r) := by
  fun_cases strHeader n
  · have e := toNat_ofNat (m := 0xa0 + n) (by omega)
    rw [List.singleton_append, decode_fixstr _ _ _ (by omega) (by omega), e, Nat.add_sub_cancel_left]
  all_goals
    apply decode_marker_be
    · intro _; rfl
    · omega

theorem decode_binHeader (n : Nat) (h : n < 2 ^ 32) (b : Bytes) (fuel : Nat) :
    decode (fuel + 1) (binHeader n ++ b) = (take? n b).map fun (s, r) => (.bin s, r) := by
  fun_cases binHeader n
  all_goals
    apply decode_marker_be
    · intro _; rfl
    · omega

theorem decode_arrHeader (n : Nat) (h : n < 2 ^ 32) (b : Bytes) (fuel : Nat) :
    decode (fuel + 1) (arrHeader n ++ b) = (decodeList fuel n b).map fun (l, r) => (.arr l, r) := by
  fun_cases arrHeader n
  · have e := toNat_ofNat (m := 0x90 + n) (by omega)
    rw [List.singleton_append, decode_fixarr _ _ _ (by omega) (by omega), e, Nat.add_sub_cancel_left]
  all_goals
    apply decode_marker_be
    · intro _; rfl
    · omega

theorem decode_mapHeader (n : Nat) (h : n < 2 ^ 32) (b : Bytes) (fuel : Nat) :
    decode (fuel + 1) (mapHeader n ++ b) = (decodePairs fuel n b).map fun (l, r) => (.map l, r) := by
  fun_cases mapHeader n
  · have e := toNat_ofNat (m := 0x80 + n) (by omega)
    rw [List.singleton_append, decode_fixmap _ _ _ (by omega) (by omega), e, Nat.add_sub_cancel_left]
  all_goals
    apply decode_marker_be
    · intro _; rfl
    · omega

theorem decode_extHeader (n ty : Nat) (h : n < 2 ^ 32) (b : Bytes) (fuel : Nat) :
    decode (fuel + 1) (extHeader n ty ++ b) =
      (take? (n + 1) (UInt8.ofNat ty :: b)).map fun (x, r) => (.ext (x.headD 0).toNat x.tail, r) := by
  unfold extHeader
  rw [List.append_assoc, List.singleton_append]
  -- the type byte is read as the first byte of the payload
  generalize UInt8.ofNat ty :: b = r
  -- `split` is slow on a goal that contains `decode (fuel + 1) _`
  by_cases h1 : n = 1
  · subst h1; rfl
  by_cases h2 : n = 2
  · subst h2; rfl
  by_cases h4 : n = 4
  · subst h4; rfl
  by_cases h8 : n = 8
  · subst h8; rfl
  by_cases h16 : n = 16
  · subst h16; rfl
  rw [if_neg h1, if_neg h2, if_neg h4, if_neg h8, if_neg h16]
  by_cases hb : n < 2 ^ 8
  · rw [if_pos hb]
    apply decode_marker_be
    · intro _; rfl
    · omega
  by_cases hc : n < 2 ^ 16
  · rw [if_neg hb, if_pos hc]
    apply decode_marker_be
    · intro _; rfl
    · omega
  · rw [if_neg hb, if_neg hc]
    apply decode_marker_be
    · intro _; rfl
    · omega

mutual
theorem decode_encode (v : Val) (hv : WF v) (rest : Bytes) (fuel : Nat) (hf : sz v ≤ fuel) :
    decode fuel (encode v ++ rest) = some (v, rest) := by
  obtain ⟨fuel, rfl⟩ : ∃ f, fuel = f + 1 := by
    cases fuel with
    | zero => cases v <;> simp [sz] at hf
    | succ f => exact ⟨f, rfl⟩
  match v, hv, hf with
  | .nil, _, _ => rfl
  | .bool true, _, _ => rfl
  | .bool false, _, _ => rfl
  | .int i, hv, _ => exact decode_int i hv rest fuel
  | .f32 b, hv, _ => exact decode_f32 b hv rest fuel
  | .f64 b, hv, _ => exact decode_f64 b hv rest fuel
  | .str s, hv, _ => rw [encode, List.append_assoc, decode_strHeader _ hv, take?_append s rest _ rfl]; rfl
  | .bin s, hv, _ => rw [encode, List.append_assoc, decode_binHeader _ hv, take?_append s rest _ rfl]; rfl
  | .ext ty d, hv, _ =>
    rw [encode, List.append_assoc, decode_extHeader _ _ hv.2, ← List.cons_append,
      take?_append (UInt8.ofNat ty :: d) rest (d.length + 1) rfl]
    simp only [Option.map_some, List.headD_cons, List.tail_cons, toNat_ofNat hv.1]
  | .arr l, hv, hf =>
    have hl := decodeList_encodeList l hv.2 rest fuel (by simp [sz] at hf; omega)
    rw [encode, List.append_assoc, decode_arrHeader l.length hv.1, hl]; rfl
  | .map l, hv, hf =>
    have hl := decodePairs_encodePairs l hv.2 rest fuel (by simp [sz] at hf; omega)
    rw [encode, List.append_assoc, decode_mapHeader l.length hv.1, hl]; rfl
theorem decodeList_encodeList (l : List Val) (hl : WFList l) (rest : Bytes) (fuel : Nat) (hf : szList l ≤ fuel) :
    decodeList fuel l.length (encodeList l ++ rest) = some (l, rest) := by
  obtain ⟨fuel, rfl⟩ : ∃ f, fuel = f + 1 := by
    cases fuel with
    | zero => cases l <;> simp [szList] at hf
    | succ f => exact ⟨f, rfl⟩
  match l, hl, hf with
  | [], _, _ => rfl
  | v :: vs, hl, hf =>
    have h1 := decode_encode v hl.1 (encodeList vs ++ rest) fuel (by simp [szList] at hf; omega)
    have h2 := decodeList_encodeList vs hl.2 rest fuel (by simp [szList] at hf; omega)
    simp only [encodeList, List.length_cons, decodeList, List.append_assoc, h1, h2]; rfl
theorem decodePairs_encodePairs (l : List (Val × Val)) (hl : WFPairs l) (rest : Bytes) (fuel : Nat)
    (hf : szPairs l ≤ fuel) :
    decodePairs fuel l.length (encodePairs l ++ rest) = some (l, rest) := by
  obtain ⟨fuel, rfl⟩ : ∃ f, fuel = f + 1 := by
    cases fuel with
    | zero => cases l <;> simp [szPairs] at hf
    | succ f => exact ⟨f, rfl⟩
  match l, hl, hf with
  | [], _, _ => rfl
  | (k, v) :: kvs, hl, hf =>
    have h1 := decode_encode k hl.1 (encode v ++ (encodePairs kvs ++ rest)) fuel (by simp [szPairs] at hf; omega)
    have h2 := decode_encode v hl.2.1 (encodePairs kvs ++ rest) fuel (by simp [szPairs] at hf; omega)
    have h3 := decodePairs_encodePairs kvs hl.2.2 rest fuel (by simp [szPairs] at hf; omega)
    simp only [encodePairs, List.length_cons, decodePairs, List.append_assoc, h1, h2, h3]; rfl
end

theorem headers_ne_nil (n : Nat) : strHeader n ≠ [] ∧ binHeader n ≠ [] ∧ arrHeader n ≠ [] ∧ mapHeader n ≠ [] := by
  refine ⟨?_, ?_, ?_, ?_⟩
  · fun_cases strHeader n <;> exact List.cons_ne_nil _ _
  · fun_cases binHeader n <;> exact List.cons_ne_nil _ _
  · fun_cases arrHeader n <;> exact List.cons_ne_nil _ _
  · fun_cases mapHeader n <;> exact List.cons_ne_nil _ _

theorem encInt_ne_nil (i : Int) : encInt i ≠ [] := by
  fun_cases encInt i <;> exact List.cons_ne_nil _ _

theorem encode_length_pos (v : Val) : 0 < (encode v).length := by
  rw [List.length_pos_iff]
  cases v with
  | bool b => cases b <;> simp [encode]
  | _ => simp [encode, extHeader, headers_ne_nil, encInt_ne_nil]

mutual
theorem sz_le (v : Val) : sz v ≤ 2 * (encode v).length := by
  match v, encode_length_pos v with
  | .arr l, _ =>
    have h := szList_le l
    have hp := List.length_pos_iff.mpr (headers_ne_nil l.length).2.2.1
    simp only [sz, encode, List.length_append]; omega
  | .map l, _ =>
    have h := szPairs_le l
    have hp := List.length_pos_iff.mpr (headers_ne_nil l.length).2.2.2
    simp only [sz, encode, List.length_append]; omega
  | .nil, hp | .bool _, hp | .int _, hp | .f32 _, hp | .f64 _, hp | .str _, hp | .bin _, hp | .ext _ _, hp =>
    simp only [sz]; omega
theorem szList_le (l : List Val) : szList l ≤ 1 + 2 * (encodeList l).length := by
  match l with
  | [] => simp [szList, encodeList]
  | v :: vs =>
    have h1 := sz_le v
    have h2 := szList_le vs
    have hp := encode_length_pos v
    simp only [szList, encodeList, List.length_append]; omega
theorem szPairs_le (l : List (Val × Val)) : szPairs l ≤ 1 + 2 * (encodePairs l).length := by
  match l with
  | [] => simp [szPairs, encodePairs]
  | (k, v) :: kvs =>
    have h1 := sz_le k
    have h2 := sz_le v
    have h3 := szPairs_le kvs
    have hp := encode_length_pos k
    have hq := encode_length_pos v
    simp only [szPairs, encodePairs, List.length_append]; omega
end

theorem decodeAll_encode (v : Val) (hv : WF v) (rest : Bytes) :
    decodeAll (encode v ++ rest) = some (v, rest) := by
  unfold decodeAll
  apply decode_encode v hv rest
  have := sz_le v
  simp only [List.length_append]; omega

end AquaProps.Lemmas.MsgPack
