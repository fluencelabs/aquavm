import Aqua.Run.VerifyData
import AquaProps.Lemmas.Assoc
/-!
Lemmas about the model of the verification step (`Aqua.Run.VerifyData`) used by C14 and C01: when each
check of `CidInfo.verify` passes, and what a successful `collectPeersCidsFromTrace`, `DataVerifier.new`,
`DataVerifier.verify`, `verifyData` imply.
-/
namespace AquaProps.VerifyLemmas
open Aqua Aqua.Data Aqua.Exec Aqua.Run Aqua.Crypto

theorem allOk_eq_ok {α ε : Type} {f : α → Except ε Unit} {l : List α} :
    allOk f l = .ok () ↔ ∀ x ∈ l, f x = .ok () := by
  induction l with
  | nil => simp [allOk]
  | cons y ys ih => rw [allOk, List.forall_mem_cons, ← ih]; rcases f y with e | ⟨⟨⟩⟩ <;> simp

theorem andThen_eq_ok {ε : Type} {a b : Except ε Unit} : andThen a b = .ok () ↔ a = .ok () ∧ b = .ok () := by
  rcases a with e | ⟨⟨⟩⟩ <;> simp [andThen]

theorem checkReference_eq_ok {α : Type} {store : List (Cid × α)} {s t : String} {c : Cid} :
    checkReference store s t c = .ok () ↔ ∃ v, lookup store c = some v := by
  unfold checkReference; cases lookup store c <;> simp

theorem verifyStore_eq_ok {α : Type} {E : VerifyEnv} {name : String} {ser : α → String} {store : List (Cid × α)} :
    verifyStore E name ser store = .ok () ↔ ∀ cid v, (cid, v) ∈ store → E.cidCheck cid (strBytes (ser v)) = .ok () := by
  rw [verifyStore, allOk_eq_ok, Prod.forall]
  refine forall₃_congr fun cid v _ => ?_
  rcases E.cidCheck cid (strBytes (ser v)) with e | ⟨⟨⟩⟩ <;> simp

theorem verifyValueStore_eq_ok {E : VerifyEnv} {store : List (Cid × String)} :
    verifyValueStore E store = .ok () ↔
      ∀ cid v, (cid, v) ∈ store → E.cidCheck cid (strBytes v) = .ok () ∧ E.isJson v = true := by
  rw [verifyValueStore, allOk_eq_ok, Prod.forall]
  refine forall₃_congr fun cid v _ => ?_
  rcases E.cidCheck cid (strBytes v) with e | ⟨⟨⟩⟩ <;> simp

/-- what a successful `CidInfo.verify` establishes -/
structure StoresOk (E : VerifyEnv) (ci : CidInfo) : Prop where
  value : ∀ cid v, (cid, v) ∈ ci.values → E.cidCheck cid (strBytes v) = .ok ()
  /-- every stored value text is JSON (so the lazy `RawValue::get_value` cannot fail later) -/
  valueJson : ∀ cid v, (cid, v) ∈ ci.values → E.isJson v = true
  tetraplet : ∀ cid (t : Tetraplet), (cid, t) ∈ ci.tetraplets → E.cidCheck cid (strBytes t.json) = .ok ()
  canonElement : ∀ cid (a : CanonCidAggregate), (cid, a) ∈ ci.canonElements → E.cidCheck cid (strBytes a.json) = .ok ()
  canonResult : ∀ cid (a : CanonResultCidAggregate), (cid, a) ∈ ci.canonResults → E.cidCheck cid (strBytes a.json) = .ok ()
  serviceResult : ∀ cid (a : ServiceResultAgg), (cid, a) ∈ ci.serviceResults → E.cidCheck cid (strBytes a.json) = .ok ()
  srRefs : ∀ cid (a : ServiceResultAgg), (cid, a) ∈ ci.serviceResults →
    (∃ t, lookup ci.tetraplets a.tetrapletCid = some t) ∧ (∃ v, lookup ci.values a.valueCid = some v)
  crRefs : ∀ cid (a : CanonResultCidAggregate), (cid, a) ∈ ci.canonResults →
    (∃ t, lookup ci.tetraplets a.tetraplet = some t) ∧ ∀ v ∈ a.values, ∃ e, lookup ci.canonElements v = some e
  ceRefs : ∀ cid (a : CanonCidAggregate), (cid, a) ∈ ci.canonElements →
    (∃ t, lookup ci.tetraplets a.tetraplet = some t) ∧ (∃ v, lookup ci.values a.value = some v) ∧
    (match a.provenance with
     | .literal => True
     | .serviceResult c => ∃ x, lookup ci.serviceResults c = some x
     | .canon c => ∃ x, lookup ci.canonResults c = some x)

theorem verify_ok {E : VerifyEnv} {ci : CidInfo} (h : ci.verify E = .ok ()) : StoresOk E ci := by
  simp only [CidInfo.verify, CidInfo.verifyCanonResultStore, CidInfo.verifyServiceResultStore, andThen_eq_ok,
    allOk_eq_ok, verifyStore_eq_ok, verifyValueStore_eq_ok, checkReference_eq_ok, Prod.forall] at h
  obtain ⟨hv, ht, ⟨hce, hcr, hcrr, hcer⟩, hsr, hsrr⟩ := h
  refine ⟨fun c v h => (hv c v h).1, fun c v h => (hv c v h).2, ht, hce, hcr, hsr, hsrr, fun c a h => (hcrr c a h).symm,
    fun c a h => ?_⟩
  obtain ⟨h1, h2, h3⟩ := hcer c a h
  refine ⟨h1, h2, ?_⟩
  cases hp : a.provenance <;> simp only [hp, checkReference_eq_ok] at h3 ⊢ <;> exact h3

def appendCids {E : VerifyEnv} (extra : String → List Cid) (g : Grouped E) : Grouped E :=
  g.map fun p => (p.1, { p.2 with cids := p.2.cids ++ extra p.1 })

theorem keys_appendCids {E : VerifyEnv} (extra : String → List Cid) (g : Grouped E) : keys (appendCids extra g) = keys g := by
  simp [keys, appendCids, List.map_map, Function.comp_def]

theorem appendCids_appendCids {E : VerifyEnv} (e1 e2 : String → List Cid) (g : Grouped E) :
    appendCids e2 (appendCids e1 g) = appendCids (fun q => e1 q ++ e2 q) g := by
  simp [appendCids]

theorem tryPushCid_ok {E : VerifyEnv} {g g' : Grouped E} {peer : String} {cid : Cid}
    (h : tryPushCid g peer cid = .ok g') :
    g' = appendCids (fun q => if q = peer then [cid] else []) g ∧ peer ∈ keys g := by
  unfold tryPushCid at h
  split at h <;> cases h
  rename_i hany
  refine ⟨List.map_congr_left fun p _ => ?_, let ⟨p, hp, hk⟩ := List.any_eq_true.mp hany; beq_iff_eq.mp hk ▸ mem_keys_of_mem hp⟩
  by_cases hp : p.1 = peer <;> simp only [hp, beq_self_eq_true, if_true, beq_iff_eq, if_false, List.append_nil]

theorem peerCids_nil (ci : CidInfo) (q : String) : peerCids ci [] q = [] := rfl

theorem peerCids_cons_none {ci : CidInfo} {st : ExecutedState} (rest : Trace) (q : String)
    (h : stateContribution ci st = .ok none) : peerCids ci (st :: rest) q = peerCids ci rest q := by
  simp only [peerCids, List.filterMap_cons, h]

theorem peerCids_cons_some {ci : CidInfo} {st : ExecutedState} {peer : String} {cid : Cid} (rest : Trace) (q : String)
    (h : stateContribution ci st = .ok (some (peer, cid))) :
    peerCids ci (st :: rest) q = (if q = peer then [cid] else []) ++ peerCids ci rest q := by
  by_cases hq : q = peer <;>
    simp only [peerCids, List.filterMap_cons, h, beq_iff_eq, eq_comm (a := peer), hq, if_true, if_false,
      List.cons_append, List.nil_append]

theorem stateContribution_call {ci : CidInfo} {c : CallResult} {cid : Cid} {sr : ServiceResultAgg} {t : Tetraplet}
    (hc : c.getCid = some cid) (hs : lookup ci.serviceResults cid = some sr)
    (ht : lookup ci.tetraplets sr.tetrapletCid = some t) : stateContribution ci (.call c) = .ok (some (t.peerPk, cid)) := by
  simp [stateContribution, hc, hs, ht]

theorem collect_ok {E : VerifyEnv} (ci : CidInfo) : ∀ (trace : Trace) (g g' : Grouped E),
    collectPeersCidsFromTrace ci trace g = .ok g' →
    g' = appendCids (peerCids ci trace) g ∧
    ∀ st ∈ trace, ∀ q cid, stateContribution ci st = .ok (some (q, cid)) → q ∈ keys g
  | [], g, g', h => by
    cases h
    exact ⟨by simp [appendCids, peerCids_nil], fun st hst => by cases hst⟩
  | st :: rest, g, g', h => by
    unfold collectPeersCidsFromTrace at h
    split at h
    · rename_i hc
      obtain ⟨rfl, h2⟩ := collect_ok ci rest g g' h
      refine ⟨by simp only [appendCids, peerCids_cons_none rest _ hc], List.forall_mem_cons.mpr ⟨fun q cid hq => ?_, h2⟩⟩
      rw [hc] at hq; cases hq
    · rename_i peer cid hc
      split at h
      · rename_i g1 hp
        obtain ⟨rfl, hk⟩ := tryPushCid_ok hp
        obtain ⟨rfl, h2⟩ := collect_ok ci rest _ g' h
        refine ⟨by rw [appendCids_appendCids]; simp only [appendCids, peerCids_cons_some rest _ hc],
          List.forall_mem_cons.mpr ⟨fun q cid' hq => ?_, fun st' hm q cid' hq => keys_appendCids _ g ▸ h2 st' hm q cid' hq⟩⟩
        rw [hc] at hq; cases hq; exact hk
      · cases h
      · cases h
    · cases h
    · cases h

/-- the step of the fold in `initialGroups` -/
def addGroup {E : VerifyEnv} (acc : Grouped E) (s : E.PK × E.Sig) : Grouped E :=
  upsert acc (E.toPeerId s.1) ⟨s.1, s.2, []⟩

theorem foldl_addGroup {E : VerifyEnv} : ∀ (sigs : List (E.PK × E.Sig)) (acc : Grouped E),
    (∀ p ∈ sigs.foldl addGroup acc, p ∈ acc ∨ ∃ s ∈ sigs, p = (E.toPeerId s.1, ⟨s.1, s.2, []⟩)) ∧
    ∀ q, (q ∈ keys acc ∨ ∃ s ∈ sigs, E.toPeerId s.1 = q) → q ∈ keys (sigs.foldl addGroup acc)
  | [], acc => ⟨fun p hp => .inl hp, fun q h => h.elim id fun ⟨_, hs, _⟩ => by cases hs⟩
  | s :: rest, acc => by
    obtain ⟨h1, h2⟩ := foldl_addGroup rest (addGroup acc s)
    refine ⟨fun p hp => ?_, fun q hq => h2 q ?_⟩
    · rcases h1 p hp with h | ⟨x, hx, rfl⟩
      · exact (mem_upsert h).imp id fun h => ⟨s, List.mem_cons_self, h⟩
      · exact .inr ⟨x, List.mem_cons_of_mem _ hx, rfl⟩
    · rcases hq with hq | ⟨x, hx, rfl⟩
      · exact .inl (keys_upsert_mono _ _ _ hq)
      · rcases List.mem_cons.mp hx with rfl | hx'
        · exact .inl (key_mem_upsert ..)
        · exact .inr ⟨x, hx', rfl⟩

theorem initialGroups_spec {E : VerifyEnv} (sigs : List (E.PK × E.Sig)) :
    (∀ p ∈ (initialGroups sigs : Grouped E), ∃ s ∈ sigs, p = (E.toPeerId s.1, ⟨s.1, s.2, []⟩)) ∧
    (∀ s ∈ sigs, E.toPeerId s.1 ∈ keys (initialGroups sigs : Grouped E)) := by
  obtain ⟨h1, h2⟩ := foldl_addGroup sigs ([] : Grouped E)
  exact ⟨fun p hp => (h1 p hp).resolve_left (by simp), fun s hs => h2 _ (.inr ⟨s, hs, rfl⟩)⟩

theorem new_ok {E : VerifyEnv} {d : VData E} {g : Grouped E} (h : DataVerifier.new E d = .ok g) :
    (∀ s ∈ d.signatures, E.validate s.1 = true) ∧
    g = (initialGroups d.signatures).map (fun p => (p.1, { p.2 with cids := sortCids (p.2.cids ++ peerCids d.cidInfo d.trace p.1) })) ∧
    ∀ st ∈ d.trace, ∀ q cid, stateContribution d.cidInfo st = .ok (some (q, cid)) → q ∈ keys (initialGroups d.signatures : Grouped E) := by
  unfold DataVerifier.new at h
  split at h
  · cases h
  · rename_i hf
    split at h <;> cases h
    rename_i hc
    obtain ⟨rfl, hkeys⟩ := collect_ok _ _ _ _ hc
    exact ⟨fun s hs => by simpa using List.find?_eq_none.mp hf s hs, by simp [appendCids], hkeys⟩

theorem dataVerifier_verify_eq_ok {E : VerifyEnv} (salt : String) : ∀ (g : Grouped E),
    DataVerifier.verify E salt g = .ok () ↔
      ∀ p ∈ g, ∃ m, saltedData p.2.cids salt = some m ∧ E.verifySig p.2.publicKey m p.2.signature = true
  | [] => by simp [DataVerifier.verify]
  | x :: rest => by
    rw [DataVerifier.verify, List.forall_mem_cons, ← dataVerifier_verify_eq_ok salt rest]
    cases saltedData x.2.cids salt <;> simp
    split <;> simp [*]

theorem verifyData_eq_ok {E : VerifyEnv} {cur : VData E} {salt : String} :
    verifyData E cur salt = .ok () ↔
      cur.cidInfo.verify E = .ok () ∧ ∃ g, DataVerifier.new E cur = .ok g ∧ DataVerifier.verify E salt g = .ok () := by
  unfold verifyData
  rcases cur.cidInfo.verify E with e | ⟨⟨⟩⟩
  · simp
  · cases DataVerifier.new E cur <;> simp [Res.mapErr_eq_ok]

/-- the signature store holds a key of peer `q` whose signature verifies over the sorted list of all
CIDs attributed to `q` in the trace, salted with `salt` -/
def SignedFor (E : VerifyEnv) (cur : VData E) (salt q : String) : Prop :=
  ∃ pk sig m, (pk, sig) ∈ cur.signatures ∧ E.toPeerId pk = q ∧
    saltedData (sortCids (peerCids cur.cidInfo cur.trace q)) salt = some m ∧ E.verifySig pk m sig = true

theorem verifyData_ok {E : VerifyEnv} {cur : VData E} {salt : String} (h : verifyData E cur salt = .ok ()) :
    StoresOk E cur.cidInfo ∧
    (∀ s ∈ cur.signatures, E.validate s.1 = true) ∧
    (∀ s ∈ cur.signatures, SignedFor E cur salt (E.toPeerId s.1)) ∧
    ∀ st ∈ cur.trace, ∀ q cid, stateContribution cur.cidInfo st = .ok (some (q, cid)) → SignedFor E cur salt q := by
  obtain ⟨hci, g, hn, hv⟩ := verifyData_eq_ok.mp h
  obtain ⟨hval, rfl, hkeys⟩ := new_ok hn
  obtain ⟨hentries, hsigkeys⟩ := initialGroups_spec (E := E) cur.signatures
  have key : ∀ q ∈ keys (initialGroups cur.signatures : Grouped E), SignedFor E cur salt q := by
    intro q hq
    obtain ⟨p0, hp0, rfl⟩ := List.mem_map.mp hq
    obtain ⟨s, hs, rfl⟩ := hentries p0 hp0
    obtain ⟨m, hm, hsig⟩ := (dataVerifier_verify_eq_ok salt _).mp hv _ (List.mem_map_of_mem hp0)
    exact ⟨s.1, s.2, m, hs, rfl, hm, hsig⟩
  exact ⟨verify_ok hci, hval, fun s hs => key _ (hsigkeys s hs), fun st hst q cid hq => key q (hkeys st hst q cid hq)⟩

end AquaProps.VerifyLemmas
