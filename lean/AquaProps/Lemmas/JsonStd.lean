import Aqua.Json.Std
import AquaProps.Lemmas.JsonValue
import AquaProps.Lemmas.JsonEq
/-! Structural equality, the implementation's `==` (`valEq`), and the conversions `JValue` ↔ `serde_json::Value`. -/
namespace AquaProps.JsonLemmas
open Aqua.Json

theorem beqList_eq : (a b : List JVal) → JVal.beqList a b = true → a = b := JsonEq.beqList_eq

mutual
theorem beq_refl : (v : JVal) → JVal.beq v v = true
  | .null => rfl
  | .bool a | .num a | .float a | .str a => beq_self_eq_true a
  | .arr a => beqList_refl a
  | .obj a => beqPairs_refl a
theorem beqList_refl : (a : List JVal) → JVal.beqList a a = true
  | [] => rfl
  | x :: xs => Bool.and_eq_true_iff.mpr ⟨beq_refl x, beqList_refl xs⟩
theorem beqPairs_refl : (a : List (String × JVal)) → JVal.beqPairs a a = true
  | [] => rfl
  | (k, x) :: xs => Bool.and_eq_true_iff.mpr ⟨Bool.and_eq_true_iff.mpr ⟨beq_self_eq_true k, beq_refl x⟩, beqPairs_refl xs⟩
end

theorem beq_iff (v w : JVal) : JVal.beq v w = true ↔ v = w :=
  ⟨JsonEq.beq_eq v w, fun h => h ▸ beq_refl v⟩

theorem normFloat_eq (a : String) : JVal.normZero (.float a) = .float (if isZeroRepr a then "0.0" else a) := by
  show (if isZeroRepr a then JVal.float "0.0" else .float a) = _
  split <;> rfl

theorem floatEq_eq (a b : String) :
    floatEq a b = ((if isZeroRepr a then "0.0" else a) == (if isZeroRepr b then "0.0" else b)) := by
  unfold floatEq
  have hz : isZeroRepr "0.0" = true := by decide
  -- texts that `isZeroRepr` tells apart differ
  have hne : ∀ {x y}, isZeroRepr x ≠ isZeroRepr y → (x == y) = false :=
    fun h => beq_eq_false_iff_ne.mpr fun e => h (e ▸ rfl)
  cases ha : isZeroRepr a <;> cases hb : isZeroRepr b <;> simp [hne, ha, hb, hz]

mutual
/-- On different constructors both sides compute to `false` (`normZero` keeps the constructor; for a float that shows once
`normFloat_eq` has moved the `if` inside). -/
theorem valEq_eq_beq : (v w : JVal) → JVal.valEq v w = JVal.beq v.normZero w.normZero
  | .float a, w => by
    rw [normFloat_eq]
    cases w with
    | float b => rw [normFloat_eq]; exact floatEq_eq a b
    | _ => rfl
  | .arr a, w => by
    cases w with
    | arr b => exact valEqList_eq_beq a b
    | float _ => rw [normFloat_eq]; rfl
    | _ => rfl
  | .obj a, w => by
    cases w with
    | obj b => exact valEqPairs_eq_beq a b
    | float _ => rw [normFloat_eq]; rfl
    | _ => rfl
  | .null, w | .bool _, w | .num _, w | .str _, w => by
    cases w with
    | float _ => rw [normFloat_eq]; rfl
    | _ => rfl
theorem valEqList_eq_beq : (a b : List JVal) → JVal.valEqList a b = JVal.beqList (JVal.normZeroList a) (JVal.normZeroList b)
  | [], [] | [], _ :: _ | _ :: _, [] => rfl
  | x :: xs, y :: ys => by
    show (_ && _) = (_ && _)
    rw [valEq_eq_beq x y, valEqList_eq_beq xs ys]
theorem valEqPairs_eq_beq : (a b : List (String × JVal)) →
    JVal.valEqPairs a b = JVal.beqPairs (JVal.normZeroPairs a) (JVal.normZeroPairs b)
  | [], [] | [], (_, _) :: _ | (_, _) :: _, [] => rfl
  | (k, x) :: xs, (k', y) :: ys => by
    show (_ && _ && _) = (_ && _ && _)
    rw [valEq_eq_beq x y, valEqPairs_eq_beq xs ys]
end

theorem valEq_iff (v w : JVal) : JVal.valEq v w = true ↔ v.normZero = w.normZero := by
  rw [valEq_eq_beq]; exact beq_iff _ _

theorem valEqList_iff : (a b : List JVal) → (JVal.valEqList a b = true ↔ JVal.normZeroList a = JVal.normZeroList b) :=
  fun a b => by rw [valEqList_eq_beq]; exact ⟨JsonEq.beqList_eq _ _, fun h => h ▸ beqList_refl _⟩

theorem valEqPairs_iff : (a b : List (String × JVal)) → (JVal.valEqPairs a b = true ↔ JVal.normZeroPairs a = JVal.normZeroPairs b) :=
  fun a b => by rw [valEqPairs_eq_beq]; exact ⟨JsonEq.beqPairs_eq _ _, fun h => h ▸ beqPairs_refl _⟩

mutual
def Sorted : JVal → Prop
  | .arr l => SortedList l
  | .obj kvs => SortedPairs kvs ∧ KeysSorted kvs
  | _ => True
def SortedList : List JVal → Prop
  | [] => True
  | v :: vs => Sorted v ∧ SortedList vs
def SortedPairs : List (String × JVal) → Prop
  | [] => True
  | (_, v) :: kvs => Sorted v ∧ SortedPairs kvs
end

mutual
/-- the invariant of `serde_json::Value` -/
def StdWF : StdVal → Prop
  | .number (.negInt i) => i < 0
  | .array l => StdWFList l
  | .object kvs => StdWFPairs kvs ∧ (kvs.map Prod.fst).Pairwise (· < ·)
  | _ => True
def StdWFList : List StdVal → Prop
  | [] => True
  | v :: vs => StdWF v ∧ StdWFList vs
def StdWFPairs : List (String × StdVal) → Prop
  | [] => True
  | (_, v) :: kvs => StdWF v ∧ StdWFPairs kvs
end

mutual
theorem sorted_of_WF (fo : FloatOracle) : (v : JVal) → WF fo v → Sorted v
  | .null, _ => trivial
  | .bool _, _ => trivial
  | .num _, _ => trivial
  | .float _, _ => trivial
  | .str _, _ => trivial
  | .arr l, h => sortedList_of_WF fo l h
  | .obj kvs, h => ⟨sortedPairs_of_WF fo kvs h.1, h.2⟩
theorem sortedList_of_WF (fo : FloatOracle) : (l : List JVal) → WFList fo l → SortedList l
  | [], _ => trivial
  | v :: vs, h => ⟨sorted_of_WF fo v h.1, sortedList_of_WF fo vs h.2⟩
theorem sortedPairs_of_WF (fo : FloatOracle) : (l : List (String × JVal)) → WFPairs fo l → SortedPairs l
  | [], _ => trivial
  | (_, v) :: vs, h => ⟨sorted_of_WF fo v h.1, sortedPairs_of_WF fo vs h.2⟩
end

theorem ofInt_nonneg {i : Int} (h : 0 ≤ i) : StdNum.ofInt i = .posInt i.toNat := if_pos h

theorem ofInt_neg {i : Int} (h : i < 0) : StdNum.ofInt i = .negInt i := if_neg (Int.not_le.mpr h)

theorem stdMkObj_sorted (kvs : List (String × StdVal)) (h : (kvs.map Prod.fst).Pairwise (· < ·)) :
    StdVal.mkObj kvs = .object kvs :=
  congrArg StdVal.object (foldl_insert_sorted stdInsertSorted (fun _ _ => rfl) (fun _ _ _ _ _ => rfl) kvs [] h)

theorem keys_fromStdPairs (kvs : List (String × StdVal)) : (fromStdPairs kvs).map Prod.fst = kvs.map Prod.fst := by
  induction kvs with
  | nil => rfl
  | cons p rest ih => obtain ⟨k, v⟩ := p; exact congrArg (k :: ·) ih

theorem keys_toStdPairs (kvs : List (String × JVal)) : (toStdPairs kvs).map Prod.fst = kvs.map Prod.fst := by
  induction kvs with
  | nil => rfl
  | cons p rest ih => obtain ⟨k, v⟩ := p; exact congrArg (k :: ·) ih

theorem fromStd_object (kvs : List (String × StdVal)) (h : (kvs.map Prod.fst).Pairwise (· < ·)) :
    fromStd (.object kvs) = .obj (fromStdPairs kvs) :=
  mkObj_sorted _ (by unfold KeysSorted; rw [keys_fromStdPairs]; exact h)

theorem toStd_obj (kvs : List (String × JVal)) (h : KeysSorted kvs) :
    toStd (.obj kvs) = .object (toStdPairs kvs) :=
  stdMkObj_sorted _ (by rw [keys_toStdPairs]; exact h)

mutual
theorem toStd_fromStd : (s : StdVal) → StdWF s → toStd (fromStd s) = s
  | .null, _ | .bool _, _ | .number (.float _), _ | .string _, _ => rfl
  | .number (.posInt n), _ => congrArg StdVal.number (ofInt_nonneg (Int.natCast_nonneg n))
  | .number (.negInt _), h => congrArg StdVal.number (ofInt_neg h)
  | .array l, h => congrArg _ (toStdList_fromStdList l h)
  | .object kvs, h => by
    rw [fromStd_object kvs h.2, toStd_obj _ (by unfold KeysSorted; rw [keys_fromStdPairs]; exact h.2),
      toStdPairs_fromStdPairs kvs h.1]
theorem toStdList_fromStdList : (l : List StdVal) → StdWFList l → toStdList (fromStdList l) = l
  | [], _ => rfl
  | v :: vs, h => congr (congrArg List.cons (toStd_fromStd v h.1)) (toStdList_fromStdList vs h.2)
theorem toStdPairs_fromStdPairs : (l : List (String × StdVal)) → StdWFPairs l → toStdPairs (fromStdPairs l) = l
  | [], _ => rfl
  | (k, v) :: vs, h => congr (congrArg (fun a b => (k, a) :: b) (toStd_fromStd v h.1)) (toStdPairs_fromStdPairs vs h.2)
end

mutual
theorem fromStd_toStd : (v : JVal) → Sorted v → fromStd (toStd v) = v
  | .null, _ | .bool _, _ | .float _, _ | .str _, _ => rfl
  | .num i, _ => Aqua.ite_ind (P := fun n => fromStd (.number n) = .num i)
    (fun h => congrArg JVal.num (Int.toNat_of_nonneg h)) fun _ => rfl
  | .arr l, h => congrArg _ (fromStdList_toStdList l h)
  | .obj kvs, h => by
    rw [toStd_obj kvs h.2, fromStd_object _ (by rw [keys_toStdPairs]; exact h.2), fromStdPairs_toStdPairs kvs h.1]
theorem fromStdList_toStdList : (l : List JVal) → SortedList l → fromStdList (toStdList l) = l
  | [], _ => rfl
  | v :: vs, h => congr (congrArg List.cons (fromStd_toStd v h.1)) (fromStdList_toStdList vs h.2)
theorem fromStdPairs_toStdPairs : (l : List (String × JVal)) → SortedPairs l → fromStdPairs (toStdPairs l) = l
  | [], _ => rfl
  | (k, v) :: vs, h => congr (congrArg (fun a b => (k, a) :: b) (fromStd_toStd v h.1)) (fromStdPairs_toStdPairs vs h.2)
end

mutual
theorem render_fromStd : (s : StdVal) → StdWF s → JVal.render (fromStd s) = StdVal.render s
  | .null, _ | .bool true, _ | .bool false, _ | .number (.posInt _), _ | .number (.negInt _), _
  | .number (.float _), _ | .string _, _ => rfl
  | .array l, h => congrArg (fun s => "[" ++ s ++ "]") (renderList_fromStd l h)
  | .object kvs, h => by
    rw [fromStd_object kvs h.2]
    exact congrArg (fun s => "{" ++ s ++ "}") (renderPairs_fromStd kvs h.1)
theorem renderList_fromStd : (l : List StdVal) → StdWFList l → JVal.renderList (fromStdList l) = StdVal.renderList l
  | [], _ => rfl
  | [v], h => render_fromStd v h.1
  | v :: v' :: vs, h =>
    congr (congrArg (fun a b => a ++ "," ++ b) (render_fromStd v h.1)) (renderList_fromStd (v' :: vs) h.2)
theorem renderPairs_fromStd : (l : List (String × StdVal)) → StdWFPairs l → JVal.renderPairs (fromStdPairs l) = StdVal.renderPairs l
  | [], _ => rfl
  | [(k, v)], h => congrArg (fun s => renderStr k ++ ":" ++ s) (render_fromStd v h.1)
  | (k, v) :: (k', v') :: vs, h =>
    congr (congrArg (fun a b => renderStr k ++ ":" ++ a ++ "," ++ b) (render_fromStd v h.1))
      (renderPairs_fromStd ((k', v') :: vs) h.2)
end

mutual
theorem valEq_fromStd : (s t : StdVal) → StdWF s → StdWF t → JVal.valEq (fromStd s) (fromStd t) = StdVal.valEq s t
  | .null, t, _, _ | .bool _, t, _, _ | .string _, t, _, _ | .number (.float _), t, _, _ => by
    cases t with
    | number m => cases m <;> rfl
    | _ => rfl
  | .number (.posInt a), t, _, ht => by
    cases t with
    | number m =>
      cases m with
      | posInt b =>
        show ((a : Int) == (b : Int)) = (a == b)
        rw [Bool.eq_iff_iff, beq_iff_eq, beq_iff_eq, Int.ofNat_inj]
      | negInt b => have hb : b < 0 := ht; exact beq_eq_false_iff_ne.mpr (by omega)
      | float _ => rfl
    | _ => rfl
  | .number (.negInt a), t, hs, _ => by
    cases t with
    | number m =>
      cases m with
      | posInt b => have ha : a < 0 := hs; exact beq_eq_false_iff_ne.mpr (by omega)
      | _ => rfl
    | _ => rfl
  | .array l, t, hs, ht => by
    cases t with
    | array l' => exact valEqList_fromStd l l' hs ht
    | number m => cases m <;> rfl
    | _ => rfl
  | .object kvs, t, hs, ht => by
    cases t with
    | object kvs' =>
      rw [fromStd_object kvs hs.2, fromStd_object kvs' ht.2]
      exact valEqPairs_fromStd kvs kvs' hs.1 ht.1
    | number m => cases m <;> rfl
    | _ => rfl
theorem valEqList_fromStd : (a b : List StdVal) → StdWFList a → StdWFList b →
    JVal.valEqList (fromStdList a) (fromStdList b) = StdVal.valEqList a b
  | [], [], _, _ | [], _ :: _, _, _ | _ :: _, [], _, _ => rfl
  | x :: xs, y :: ys, ha, hb => congr (congrArg (· && ·) (valEq_fromStd x y ha.1 hb.1)) (valEqList_fromStd xs ys ha.2 hb.2)
theorem valEqPairs_fromStd : (a b : List (String × StdVal)) → StdWFPairs a → StdWFPairs b →
    JVal.valEqPairs (fromStdPairs a) (fromStdPairs b) = StdVal.valEqPairs a b
  | [], [], _, _ | [], (_, _) :: _, _, _ | (_, _) :: _, [], _, _ => rfl
  | (k, x) :: xs, (k', y) :: ys, ha, hb =>
    congr (congrArg (fun a b => k == k' && a && b) (valEq_fromStd x y ha.1 hb.1)) (valEqPairs_fromStd xs ys ha.2 hb.2)
end

mutual
theorem stdWF_toStd : (v : JVal) → Sorted v → StdWF (toStd v)
  | .null, _ | .bool _, _ | .float _, _ | .str _, _ => trivial
  | .num i, _ => Aqua.ite_ind (P := fun n => StdWF (.number n)) (fun _ => trivial) Int.not_le.mp
  | .arr l, h => stdWFList_toStd l h
  | .obj kvs, h => by
    rw [toStd_obj kvs h.2]
    exact ⟨stdWFPairs_toStd kvs h.1, by rw [keys_toStdPairs]; exact h.2⟩
theorem stdWFList_toStd : (l : List JVal) → SortedList l → StdWFList (toStdList l)
  | [], _ => trivial
  | v :: vs, h => ⟨stdWF_toStd v h.1, stdWFList_toStd vs h.2⟩
theorem stdWFPairs_toStd : (l : List (String × JVal)) → SortedPairs l → StdWFPairs (toStdPairs l)
  | [], _ => trivial
  | (_, v) :: vs, h => ⟨stdWF_toStd v h.1, stdWFPairs_toStd vs h.2⟩
end

end AquaProps.JsonLemmas
