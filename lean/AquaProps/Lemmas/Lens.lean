import Aqua.Exec.Lens
import AquaProps.Lemmas.JsonObj
/-! Lemmas for C24.  The applier is cut into one function per accessor (`applyAccessor`, `select_cons`), and each
accessor is compared with one step of plain navigation (`Follows`); failures are classified through `OkOr`, which
goes through `bind`.  Canon streams and the key groups of canon maps reduce to the applier on the array of their
elements; the index of a canon map is compared with plain filtering of its key-value pairs. -/
namespace AquaProps.Lemmas.Lens
open Aqua Aqua.Json Aqua.Air Aqua.Exec Aqua.Exec.Lens

/-- looking a name up in the store does not panic and does not meet a name that is both a visible scalar and a fold
iterator (`IterableShadowing`, uncatchable — an `unreachable!()` before /repo 66d8bd2), and peeking at the element a
fold iterator points at does not panic (an iterator in scope points at an element) -/
def EnvTotal (sc : Scalars) : Prop :=
  ∀ name, ((∀ s, sc.getValue name ≠ .panic s) ∧ sc.getValue name ≠ .error (.uncatchable (.iterableShadowing name))) ∧
    (∀ r, sc.getValue name = .ok r → ∀ s, scalarRefValue r ≠ .panic s)

def IsLensFailure : ExecErr → Prop
  | .catchable (.lambdaApplierError _) => True
  | .catchable (.lengthFunctorAppliedToNotArray _) => True
  | .catchable (.variableNotFound _) => True
  | .catchable (.variableWasNotInitializedAfterNew _) => True
  | _ => False

def OkOrLensFailure {α} (r : ER α) : Prop := (∃ a, r = .ok a) ∨ (∃ e, r = .error e ∧ IsLensFailure e)

variable {α : Type} (sc : Scalars)

/-- `OkOrLensFailure` is `OkOr IsLensFailure` -/
def OkOr (P : ExecErr → Prop) (r : ER α) : Prop := (∃ a, r = .ok a) ∨ ∃ e, r = .error e ∧ P e

theorem OkOr.bind {β : Type} {P : ExecErr → Prop} {x : ER α} {f : α → ER β} (hx : OkOr P x)
    (hf : ∀ a, x = .ok a → OkOr P (f a)) : OkOr P (x.bind f) := by
  rcases hx with ⟨a, rfl⟩ | ⟨e, rfl, he⟩
  · exact hf a rfl
  · exact .inr ⟨e, rfl, he⟩

theorem OkOr.mono {P Q : ExecErr → Prop} {r : ER α} (h : OkOr P r) (hPQ : ∀ e, P e → Q e) : OkOr Q r :=
  h.imp_right fun ⟨e, he, hp⟩ => ⟨e, he, hPQ e hp⟩

def IsPathFailure (e : ExecErr) : Prop := IsLensFailure e ∧ ∀ v, e ≠ .catchable (.lengthFunctorAppliedToNotArray v)

theorem isPathFailure_lambda (l : LambdaErr) : IsPathFailure (.catchable (.lambdaApplierError l)) := ⟨trivial, nofun⟩

/-- `r` follows a navigation that may be undefined (`none`: an accessor denotes no step — `r` is no value then) and,
where defined, gives a value or none (`some none`: `r` is a `LambdaApplierError`) -/
def Follows (r : ER α) : Option (Option α) → Prop
  | some (some a) => r = .ok a
  | some none => ∃ e, r = lambdaErr e
  | none => ∀ a, r ≠ .ok a

theorem Follows.ok_iff {r : ER α} {oo : Option (Option α)} (h : Follows r oo) {a : α} :
    r = .ok a ↔ oo = some (some a) := by
  match oo, h with
  | some (some b), h => rw [show r = .ok b from h]; simp
  | some none, ⟨e, he⟩ => simp [he, lambdaErr, catchable]
  | none, h => simp [h a]

theorem Follows.okOr {P : ExecErr → Prop} (hP : ∀ l, P (.catchable (.lambdaApplierError l))) {r : ER α}
    {o : Option α} (h : Follows r (some o)) : OkOr P r := by
  cases o with
  | some a => exact .inl ⟨a, h⟩
  | none => obtain ⟨e, rfl⟩ := h; exact .inr ⟨_, rfl, hP e⟩

theorem Follows.of_bind {β : Type} {r : ER α} {o : Option β} {f : β → Option α} (h : Follows r (some (o.bind f))) :
    Follows r (o.map f) := by
  cases o with
  | none => obtain ⟨e, rfl⟩ := h; exact nofun
  | some b => exact h

theorem okOr_liftLambda {P : ExecErr → Prop} (hP : ∀ l, P (.catchable (.lambdaApplierError l)))
    {r : Res LambdaErr α} (hp : ∀ s, r ≠ .panic s) : OkOr P (liftLambda r) := by
  cases r with
  | ok a => exact .inl ⟨a, rfl⟩
  | error e => exact .inr ⟨_, rfl, hP e⟩
  | panic s => exact absurd rfl (hp s)

theorem getValue_error (name : String) (e : ExecErr) (h : sc.getValue name = .error e) :
    e = .catchable (.variableNotFound name) ∨ e = .catchable (.variableWasNotInitializedAfterNew name) ∨
      e = .uncatchable (.iterableShadowing name) := by
  simp only [Scalars.getValue] at h
  split at h <;> cases h <;> simp

theorem getValue_total (henv : EnvTotal sc) (name : String) : OkOr IsPathFailure (sc.getValue name) := by
  obtain ⟨⟨hnp, hclash⟩, -⟩ := henv name
  cases hg : sc.getValue name with
  | ok r => exact .inl ⟨r, rfl⟩
  | panic p => exact absurd hg (hnp p)
  | error e =>
    refine .inr ⟨e, rfl, ?_⟩
    rcases getValue_error sc name e hg with rfl | rfl | rfl
    · exact ⟨trivial, nofun⟩
    · exact ⟨trivial, nofun⟩
    · exact absurd hg hclash

theorem peek_ne_error (it : IterableValue) (e : ExecErr) : it.peek ≠ .error e := by
  unfold IterableValue.peek
  repeat' split
  all_goals simp

theorem scalarRefValue_not_error (r : ScalarRef) (e : ExecErr) : scalarRefValue r ≠ .error e := by
  cases r with
  | value v => simp [scalarRefValue]
  | iterableValue f =>
    simp only [scalarRefValue, IterableValue.peekExpect]
    cases hq : f.iterable.peek with
    | error e' => exact absurd hq (peek_ne_error _ e')
    | panic s => simp [bind, Res.bind]
    | ok o => cases o <;> simp [bind, Res.bind, pure]

theorem selectByScalar_eq (v : JVal) (r : ScalarRef) :
    selectByScalar v r = (scalarRefValue r).bind fun a => liftLambda (selectByJvalue v a) := by
  cases r with
  | value x => rfl
  | iterableValue f =>
    simp only [selectByScalar, scalarRefValue]
    cases f.iterable.peekExpect <;> rfl

theorem tryScalarRefAsIdx_eq (r : ScalarRef) :
    tryScalarRefAsIdx r = (scalarRefValue r).bind fun a => liftLambda (tryJvalueAsIdx a) := by
  cases r with
  | value x => rfl
  | iterableValue f =>
    simp only [tryScalarRefAsIdx, scalarRefValue]
    cases f.iterable.peekExpect <;> rfl

/-- the value the scalar `s` denotes, as the applier gets at it -/
def scalarLookup (s : String) : ER JVal := (sc.getValue s).bind scalarRefValue

theorem scalarLookup_ok {s : String} {a : JVal} :
    scalarLookup sc s = .ok a ↔ scalarValue sc s = some a := by
  simp only [scalarLookup, scalarValue]
  cases sc.getValue s with
  | ok r => dsimp only [Res.bind]; cases scalarRefValue r <;> simp
  | _ => simp [Res.bind]

theorem scalarLookup_total (henv : EnvTotal sc) (s : String) : OkOr IsPathFailure (scalarLookup sc s) :=
  (getValue_total sc henv s).bind fun r hr => by
    cases hv : scalarRefValue r with
    | ok a => exact .inl ⟨a, rfl⟩
    | error e => exact absurd hv (scalarRefValue_not_error r e)
    | panic p => exact absurd hv ((henv s).2 r hr p)

theorem getField_obj_eq_member (kvs : List (String × JVal)) (k : String) :
    (JVal.obj kvs).getField k = member k kvs := by
  simp only [JVal.getField]
  induction kvs with
  | nil => rfl
  | cons p rest ih =>
    obtain ⟨k', v⟩ := p
    by_cases h : k' = k
    · simp [List.find?, member, h]
    · have : (k' == k) = false := by simp [h]
      simp only [List.find?, this, member, h, if_false]
      exact ih

theorem follows_idx (v : JVal) (i : Nat) :
    Follows (liftLambda (tryJvalueWithIdx v i)) (some (navigateStep v (.idx i))) := by
  cases v with
  | arr a =>
    simp only [tryJvalueWithIdx, navigateStep]
    cases a[i]? with
    | some x => exact rfl
    | none => exact ⟨_, rfl⟩
  | _ => exact ⟨_, rfl⟩

theorem follows_key (v : JVal) (k : String) :
    Follows (liftLambda (tryJvalueWithFieldName v k)) (some (navigateStep v (.key k))) := by
  cases v with
  | obj kvs =>
    simp only [tryJvalueWithFieldName, navigateStep, getField_obj_eq_member]
    cases member k kvs with
    | some x => exact rfl
    | none => exact ⟨_, rfl⟩
  | _ => exact ⟨_, rfl⟩

theorem follows_value (v a : JVal) :
    Follows (liftLambda (selectByJvalue v a)) (some ((stepOfValue a).bind (navigateStep v))) := by
  cases a with
  | str k => exact follows_key v k
  | num i =>
    by_cases h : 0 ≤ i ∧ i ≤ 4294967295
    · simp only [selectByJvalue, tryNumberToU32, stepOfValue, if_pos h]; exact follows_idx v _
    · simp only [selectByJvalue, tryNumberToU32, stepOfValue, if_neg h]; exact ⟨_, rfl⟩
  | _ => exact ⟨_, rfl⟩

theorem tryJvalueAsIdx_ok (a : JVal) (i : Nat) : tryJvalueAsIdx a = .ok i ↔ stepOfValue a = some (.idx i) := by
  cases a with
  | num n =>
    simp only [tryJvalueAsIdx, tryNumberToU32, stepOfValue]
    split <;> simp
  | _ => simp [tryJvalueAsIdx, tryNumberToU32, stepOfValue]

theorem tryJvalueAsIdx_no_panic (a : JVal) (s : String) : tryJvalueAsIdx a ≠ .panic s := by
  cases a <;> simp [tryJvalueAsIdx, tryNumberToU32]
  split <;> simp

theorem stepOfValue_ne_length (a : JVal) : stepOfValue a ≠ some .length := by
  cases a <;> simp [stepOfValue]

theorem navigateStep_arr (l : List JVal) (s : Step) (x : JVal) (hs : s ≠ .length) :
    navigateStep (.arr l) s = some x ↔ ∃ i, s = .idx i ∧ l[i]? = some x := by
  cases s <;> simp [navigateStep] at hs ⊢

theorem resolveStep_ne_length (a : ValueAccessor) (s : Step) (h : resolveStep sc a = some s) : s ≠ .length := by
  rintro rfl
  cases a with
  | fieldAccessByScalar n =>
    obtain ⟨x, -, hx⟩ := Option.bind_eq_some_iff.mp h
    exact stepOfValue_ne_length x hx
  | _ => cases h

def applyAccessor (v : JVal) : ValueAccessor → ER JVal
  | .arrayAccess i => liftLambda (tryJvalueWithIdx v i)
  | .fieldAccessByName n => liftLambda (tryJvalueWithFieldName v n)
  | .fieldAccessByScalar s => (scalarLookup sc s).bind fun a => liftLambda (selectByJvalue v a)
  | .error => .panic unreachableAccessor

theorem select_cons (v : JVal) (a : ValueAccessor) (rest : List ValueAccessor) :
    Lens.selectByPathFromScalar sc v (a :: rest) =
      (applyAccessor sc v a).bind fun v' => Lens.selectByPathFromScalar sc v' rest := by
  cases a with
  | arrayAccess i =>
    simp only [Lens.selectByPathFromScalar, applyAccessor]
    cases liftLambda (tryJvalueWithIdx v i) <;> rfl
  | fieldAccessByName n =>
    simp only [Lens.selectByPathFromScalar, applyAccessor]
    cases liftLambda (tryJvalueWithFieldName v n) <;> rfl
  | fieldAccessByScalar s =>
    simp only [Lens.selectByPathFromScalar, applyAccessor, scalarLookup, selectByScalar_eq]
    cases sc.getValue s with
    | ok r =>
      dsimp only [Res.bind]
      cases scalarRefValue r with
      | ok a => dsimp only; cases liftLambda (selectByJvalue v a) <;> rfl
      | _ => rfl
    | _ => rfl
  | error => rfl

theorem applyAccessor_follows (v : JVal) (a : ValueAccessor) :
    Follows (applyAccessor sc v a) ((resolveStep sc a).map (navigateStep v)) := by
  cases a with
  | arrayAccess i => exact follows_idx v i
  | fieldAccessByName n => exact follows_key v n
  | fieldAccessByScalar n =>
    simp only [applyAccessor, resolveStep]
    cases hx : scalarValue sc n with
    | none =>
      refine fun r hr => ?_
      obtain ⟨x, hx', -⟩ := Res.bind_eq_ok'.mp hr
      rw [(scalarLookup_ok sc).mp hx'] at hx; cases hx
    | some x => rw [(scalarLookup_ok sc).mpr hx]; exact (follows_value v x).of_bind
  | error => exact nofun

theorem applyAccessor_total (henv : EnvTotal sc) (v : JVal) {a : ValueAccessor} (ha : a ≠ .error) :
    OkOr IsPathFailure (applyAccessor sc v a) := by
  cases a with
  | arrayAccess i => exact (follows_idx v i).okOr isPathFailure_lambda
  | fieldAccessByName n => exact (follows_key v n).okOr isPathFailure_lambda
  | fieldAccessByScalar s =>
    exact (scalarLookup_total sc henv s).bind fun x _ => (follows_value v x).okOr isPathFailure_lambda
  | error => exact absurd rfl ha

theorem select_follows (v : JVal) (path : List ValueAccessor) :
    Follows (Lens.selectByPathFromScalar sc v path) ((resolveSteps sc path).map (navigate v)) := by
  induction path generalizing v with
  | nil => exact rfl
  | cons a rest ih =>
    have ha := applyAccessor_follows sc v a
    rw [select_cons]
    simp only [resolveSteps]
    generalize resolveStep sc a = os at ha ⊢
    generalize resolveSteps sc rest = oss at ih ⊢
    cases os with
    | none => exact fun r hr => let ⟨v', hv', _⟩ := Res.bind_eq_ok'.mp hr; ha v' hv'
    | some s =>
      cases oss with
      | none => exact fun r hr => let ⟨v', _, hr'⟩ := Res.bind_eq_ok'.mp hr; ih v' r hr'
      | some ss =>
        -- `Option.map` and `Option.bind` on `some` are not reduced by `cases`: both sides are stated in reduced form
        change Follows _ (some (navigateStep v s)) at ha
        show Follows _ (some (navigate v (s :: ss)))
        simp only [navigate]
        generalize navigateStep v s = o at ha ⊢
        cases o with
        | none => obtain ⟨e, he⟩ := ha; exact ⟨e, by rw [he]; rfl⟩
        | some v' => rw [show applyAccessor sc v a = .ok v' from ha]; exact ih v'

theorem select_ok (v : JVal) (path : List ValueAccessor) (r : JVal) :
    Lens.selectByPathFromScalar sc v path = .ok r ↔
      ∃ steps, resolveSteps sc path = some steps ∧ navigate v steps = some r :=
  (select_follows sc v path).ok_iff.trans Option.map_eq_some_iff

theorem select_total (henv : EnvTotal sc) (v : JVal) {path : List ValueAccessor}
    (hp : ∀ a ∈ path, a ≠ ValueAccessor.error) : OkOr IsPathFailure (Lens.selectByPathFromScalar sc v path) := by
  induction path generalizing v with
  | nil => exact .inl ⟨v, rfl⟩
  | cons a rest ih =>
    rw [select_cons]
    exact (applyAccessor_total sc henv v (hp a (by simp))).bind fun v' _ => ih v' fun b hb => hp b (by simp [hb])

theorem select_append (v : JVal) (p q : List ValueAccessor) :
    Lens.selectByPathFromScalar sc v (p ++ q) =
      (Lens.selectByPathFromScalar sc v p).bind fun v' => Lens.selectByPathFromScalar sc v' q := by
  induction p generalizing v with
  | nil => rfl
  | cons a rest ih =>
    rw [List.cons_append, select_cons, select_cons]
    cases applyAccessor sc v a with
    | ok v' => exact ih v'
    | _ => rfl

theorem splitToIdx_scalar (s : String) :
    splitToIdx sc (.fieldAccessByScalar s) = (scalarLookup sc s).bind fun a => liftLambda (tryJvalueAsIdx a) := by
  simp only [splitToIdx, scalarLookup, tryScalarRefAsIdx_eq]
  cases sc.getValue s <;> rfl

theorem splitToIdx_ok (h : ValueAccessor) (i : Nat) :
    splitToIdx sc h = .ok i ↔ resolveStep sc h = some (.idx i) := by
  cases h with
  | arrayAccess j => simp [splitToIdx, resolveStep]
  | fieldAccessByName n => simp [splitToIdx, resolveStep, lambdaErr, catchable]
  | fieldAccessByScalar s =>
    simp [splitToIdx_scalar, Res.bind_eq_ok', scalarLookup_ok, liftLambda, Res.mapErr_eq_ok, tryJvalueAsIdx_ok, resolveStep,
      Option.bind_eq_some_iff]
  | error => simp [splitToIdx, resolveStep]

theorem splitToIdx_total (henv : EnvTotal sc) {h : ValueAccessor} (hh : h ≠ .error) :
    OkOr IsPathFailure (splitToIdx sc h) := by
  cases h with
  | arrayAccess j => exact .inl ⟨j, rfl⟩
  | fieldAccessByName n => exact .inr ⟨_, rfl, isPathFailure_lambda _⟩
  | fieldAccessByScalar s =>
    rw [splitToIdx_scalar]
    exact (scalarLookup_total sc henv s).bind fun a _ => okOr_liftLambda isPathFailure_lambda (tryJvalueAsIdx_no_panic a)
  | error => exact absurd rfl hh

theorem splitToIdx_resolved {b : ValueAccessor} {s : Step} (hs : resolveStep sc b = some s) :
    OkOr (fun e => ∃ l, e = .catchable (.lambdaApplierError l)) (splitToIdx sc b) := by
  cases b with
  | arrayAccess i => exact .inl ⟨i, rfl⟩
  | fieldAccessByName n => exact .inr ⟨_, rfl, _, rfl⟩
  | fieldAccessByScalar nm =>
    obtain ⟨x, hx, -⟩ := Option.bind_eq_some_iff.mp hs
    rw [splitToIdx_scalar, (scalarLookup_ok sc).mpr hx]
    exact okOr_liftLambda (fun l => ⟨l, rfl⟩) (tryJvalueAsIdx_no_panic x)
  | error => cases hs

theorem stream_eq (stream : List JVal) (h : ValueAccessor) (body : List ValueAccessor) :
    selectByPathFromStream sc stream h body =
      (splitToIdx sc h).bind fun i =>
        (Res.ofOption (.catchable (.lambdaApplierError (.canonStreamNotHaveEnoughValues stream.length i))) stream[i]?).bind
          fun x => (Lens.selectByPathFromScalar sc x body).bind fun r => .ok ⟨r, some i⟩ := by
  simp only [selectByPathFromStream]
  cases splitToIdx sc h with
  | ok i =>
    dsimp only [Res.bind]
    cases stream[i]? with
    | some x => dsimp only [Res.ofOption]; cases Lens.selectByPathFromScalar sc x body <;> rfl
    | none => rfl
  | _ => rfl

theorem canonMapStream_eq (g : List JVal) (b : ValueAccessor) (bs : List ValueAccessor) :
    selectByPathFromCanonMapStream sc g b bs = (selectByPathFromStream sc g b bs).bind fun lr => .ok lr.result := by
  simp only [selectByPathFromCanonMapStream, selectByPathFromStream]
  cases splitToIdx sc b with
  | ok i =>
    dsimp only [Res.bind]
    cases g[i]? with
    | some x =>
      cases bs with
      | nil => rfl
      | cons c cs => dsimp only [List.isEmpty_cons]; cases Lens.selectByPathFromScalar sc x (c :: cs) <;> rfl
    | none => rfl
  | _ => rfl

theorem applyAccessor_arr (l : List JVal) (h : ValueAccessor) (x : JVal) :
    applyAccessor sc (.arr l) h = .ok x ↔ ∃ i, splitToIdx sc h = .ok i ∧ l[i]? = some x := by
  simp only [(applyAccessor_follows sc (.arr l) h).ok_iff, Option.map_eq_some_iff, splitToIdx_ok]
  constructor
  · rintro ⟨s, hs, hn⟩
    obtain ⟨i, rfl, hi⟩ := (navigateStep_arr l s x (resolveStep_ne_length sc h s hs)).mp hn
    exact ⟨i, hs, hi⟩
  · rintro ⟨i, hs, hi⟩
    exact ⟨.idx i, hs, hi⟩

theorem stream_ok_iff_scalar (stream : List JVal) (h : ValueAccessor) (body : List ValueAccessor) (r : JVal) :
    (∃ t, selectByPathFromStream sc stream h body = .ok ⟨r, t⟩) ↔
      Lens.selectByPathFromScalar sc (.arr stream) (h :: body) = .ok r := by
  simp only [stream_eq, select_cons, Res.bind_eq_ok', applyAccessor_arr, Res.ofOption_eq_ok]
  constructor
  · rintro ⟨t, i, hi, x, hx, r', hr, he⟩
    cases he
    exact ⟨x, ⟨i, hi, hx⟩, hr⟩
  · rintro ⟨x, ⟨i, hi, hx⟩, hr⟩
    exact ⟨some i, i, hi, x, hx, r, hr, rfl⟩

theorem stream_total (henv : EnvTotal sc) (stream : List JVal) {h : ValueAccessor}
    {body : List ValueAccessor} (hh : h ≠ .error) (hb : ∀ a ∈ body, a ≠ ValueAccessor.error) :
    OkOr IsPathFailure (selectByPathFromStream sc stream h body) := by
  rw [stream_eq]
  refine (splitToIdx_total sc henv hh).bind fun i _ => OkOr.bind ?_ fun x _ =>
    (select_total sc henv x hb).bind fun r _ => .inl ⟨_, rfl⟩
  cases stream[i]? with
  | some x => exact .inl ⟨x, rfl⟩
  | none => exact .inr ⟨_, rfl, isPathFailure_lambda _⟩

/-- the lens of a canon map past its first accessor, on the key group `g` that accessor selects -/
def selectInGroup (g : List JVal) : List ValueAccessor → ER JVal
  | [] => .ok (.arr g)
  | b :: bs => selectByPathFromCanonMapStream sc g b bs

theorem selectInGroup_ok (g : List JVal) (body : List ValueAccessor) (r : JVal) :
    selectInGroup sc g body = .ok r ↔ Lens.selectByPathFromScalar sc (.arr g) body = .ok r := by
  cases body with
  | nil => exact Iff.rfl
  | cons b bs =>
    rw [← stream_ok_iff_scalar, selectInGroup, canonMapStream_eq, Res.bind_eq_ok']
    exact ⟨fun ⟨lr, h, e⟩ => ⟨lr.tetrapletIdx, by cases e; exact h⟩, fun ⟨t, h⟩ => ⟨_, h, rfl⟩⟩

theorem selectInGroup_total (henv : EnvTotal sc) (g : List JVal) {body : List ValueAccessor}
    (hb : ∀ a ∈ body, a ≠ ValueAccessor.error) : OkOr IsPathFailure (selectInGroup sc g body) := by
  cases body with
  | nil => exact .inl ⟨_, rfl⟩
  | cons b bs =>
    rw [selectInGroup, canonMapStream_eq]
    exact (stream_total sc henv g (hb b (by simp)) fun a ha => hb a (by simp [ha])).bind fun _ _ => .inl ⟨_, rfl⟩

theorem canonMap_eq (m : CanonStreamMap) (h : ValueAccessor) (body : List ValueAccessor) :
    selectByPathFromCanonMap sc m h body =
      (canonMapKeyOfPrefix sc h).bind fun k => selectInGroup sc ((m.index k).getD []) body := by
  simp only [selectByPathFromCanonMap]
  cases canonMapKeyOfPrefix sc h with
  | ok k => dsimp only [Res.bind]; cases body <;> cases m.index k <;> rfl
  | _ => rfl

theorem canonMapKeyOfPrefix_ok (h : ValueAccessor) (k : StreamMapKey) :
    canonMapKeyOfPrefix sc h = .ok k ↔ resolveMapKey sc h = some k := by
  cases h with
  | fieldAccessByScalar s =>
    simp only [canonMapKeyOfPrefix, resolveMapKey]
    cases sc.getValue s with
    | ok ref =>
      cases ref with
      | value x =>
        simp only [tryScalarRefAsStreamMapKey]
        cases StreamMapKey.fromValue x.result <;> simp [liftLambda, Res.mapErr]
      | iterableValue f => simp [tryScalarRefAsStreamMapKey, liftLambda, Res.mapErr]
    | _ => simp
  | _ => simp [canonMapKeyOfPrefix, resolveMapKey, StreamMapKey.ofU32]

theorem tryScalarRefAsStreamMapKey_no_panic (r : ScalarRef) (s : String) : tryScalarRefAsStreamMapKey r ≠ .panic s := by
  cases r with
  | value x => simp only [tryScalarRefAsStreamMapKey]; split <;> simp
  | iterableValue f => simp [tryScalarRefAsStreamMapKey]

theorem canonMapKeyOfPrefix_total (henv : EnvTotal sc) {h : ValueAccessor} (hh : h ≠ .error) :
    OkOr IsPathFailure (canonMapKeyOfPrefix sc h) := by
  cases h with
  | arrayAccess i => exact .inl ⟨_, rfl⟩
  | fieldAccessByName n => exact .inl ⟨_, rfl⟩
  | fieldAccessByScalar s =>
    have : canonMapKeyOfPrefix sc (.fieldAccessByScalar s) =
        (sc.getValue s).bind fun r => liftLambda (tryScalarRefAsStreamMapKey r) := by
      simp only [canonMapKeyOfPrefix]; cases sc.getValue s <;> rfl
    rw [this]
    exact (getValue_total sc henv s).bind fun r _ =>
      okOr_liftLambda isPathFailure_lambda (tryScalarRefAsStreamMapKey_no_panic r)
  | error => exact absurd rfl hh

/-- `CanonStreamMap.index` on the bare association list -/
def lookupKey (m : List (StreamMapKey × List JVal)) (k : StreamMapKey) : Option (List JVal) :=
  (m.find? (fun (k', _) => k' = k)).map (·.2)

theorem lookupKey_cons (k0 : StreamMapKey) (g : List JVal) (m : List (StreamMapKey × List JVal)) (k : StreamMapKey) :
    lookupKey ((k0, g) :: m) k = if k0 = k then some g else lookupKey m k := by
  by_cases h : k0 = k <;> simp [lookupKey, h]

theorem lookupKey_entryPush (m : List (StreamMapKey × List JVal)) (k k' : StreamMapKey) (v : JVal) :
    lookupKey (entryPush m k v) k' =
      if k = k' then some ((lookupKey m k).getD [] ++ [v]) else lookupKey m k' := by
  induction m with
  | nil => simp [entryPush, lookupKey]
  | cons p rest ih =>
    obtain ⟨k0, vs⟩ := p
    by_cases h0 : k0 = k
    · subst h0; by_cases h : k0 = k' <;> simp [entryPush, lookupKey_cons, h]
    · by_cases h : k = k'
      · subst h; simp [entryPush, lookupKey_cons, h0, ih]
      · simp [entryPush, lookupKey_cons, h0, ih, h]

theorem keyGroup_cons {kv : JVal} {key : StreamMapKey} {v : JVal} (hk : StreamMapKey.fromKvpairOwned kv = some key)
    (hv : kv.getField valueFieldName = some v) (rest : List JVal) (k : StreamMapKey) :
    keyGroup (kv :: rest) k = if key = k then v :: keyGroup rest k else keyGroup rest k := by
  by_cases h : key = k <;> simp only [keyGroup, List.filterMap_cons, hk, hv, h, ↓reduceIte]

theorem getValueFromObj_ok {kv v : JVal} : getValueFromObj kv = .ok v ↔ kv.getField valueFieldName = some v := by
  cases kv with
  | obj o => simp only [getValueFromObj]; cases (JVal.obj o).getField valueFieldName <;> simp [uncatchable]
  | _ => simp [getValueFromObj, JVal.getField, uncatchable]

theorem loop_cons_ok {acc m : List (StreamMapKey × List JVal)} {kv : JVal} {rest : List JVal} :
    fromCanonStreamLoop acc (kv :: rest) = .ok m ↔
      ∃ key v, StreamMapKey.fromKvpairOwned kv = some key ∧ kv.getField valueFieldName = some v ∧
        fromCanonStreamLoop (entryPush acc key v) rest = .ok m := by
  simp only [fromCanonStreamLoop]
  cases StreamMapKey.fromKvpairOwned kv with
  | none => simp [uncatchable]
  | some key =>
    dsimp only
    cases hv : getValueFromObj kv with
    | ok v => simp [getValueFromObj_ok.mp hv]
    | _ => simp [← getValueFromObj_ok, hv]

theorem loop_index {acc : List (StreamMapKey × List JVal)} {rest : List JVal} {m : List (StreamMapKey × List JVal)}
    (h : fromCanonStreamLoop acc rest = .ok m) (k : StreamMapKey) :
    lookupKey m k =
      if keyGroup rest k = [] then lookupKey acc k else some ((lookupKey acc k).getD [] ++ keyGroup rest k) := by
  induction rest generalizing acc with
  | nil => cases h; rfl
  | cons kv rest ih =>
    obtain ⟨key, v, hk, hv, h⟩ := loop_cons_ok.mp h
    rw [ih h, lookupKey_entryPush, keyGroup_cons hk hv]
    by_cases hkk : key = k
    · subst hkk; by_cases hg : keyGroup rest key = [] <;> simp [hg]
    · simp [hkk]

theorem fromCanonStream_ok {pairs : List JVal} {m : CanonStreamMap} :
    CanonStreamMap.fromCanonStream pairs = .ok m ↔ m.values = pairs ∧ fromCanonStreamLoop [] pairs = .ok m.map := by
  obtain ⟨vals, mm⟩ := m
  simp only [CanonStreamMap.fromCanonStream]
  cases fromCanonStreamLoop [] pairs <;> simp [eq_comm]

theorem index_eq_keyGroup (pairs : List JVal) (m : CanonStreamMap) (h : CanonStreamMap.fromCanonStream pairs = .ok m)
    (k : StreamMapKey) :
    m.index k = if keyGroup pairs k = [] then none else some (keyGroup pairs k) := by
  simpa [lookupKey, CanonStreamMap.index] using loop_index (fromCanonStream_ok.mp h).2 k

theorem index_getD (pairs : List JVal) (m : CanonStreamMap) (h : CanonStreamMap.fromCanonStream pairs = .ok m)
    (k : StreamMapKey) : (m.index k).getD [] = keyGroup pairs k := by
  rw [index_eq_keyGroup pairs m h]
  split <;> simp [*]

theorem keys_entryPush (m : List (StreamMapKey × List JVal)) (k : StreamMapKey) (v : JVal) :
    (entryPush m k v).map (·.1) = if k ∈ m.map (·.1) then m.map (·.1) else m.map (·.1) ++ [k] := by
  induction m with
  | nil => rfl
  | cons p rest ih =>
    obtain ⟨k0, vs⟩ := p
    by_cases h : k0 = k
    · subst h; simp only [entryPush, ↓reduceIte, List.map_cons, List.mem_cons, true_or]
    · simp only [entryPush, h, ↓reduceIte, List.map_cons, ih, List.mem_cons, Ne.symm h, false_or]
      split <;> rfl

theorem nodup_entryPush (m : List (StreamMapKey × List JVal)) (k : StreamMapKey) (v : JVal)
    (h : (m.map (·.1)).Nodup) : ((entryPush m k v).map (·.1)).Nodup := by
  rw [keys_entryPush]
  split
  · exact h
  · rename_i hk
    refine List.nodup_append.mpr ⟨h, by simp, fun a ha b hb => ?_⟩
    rintro rfl
    exact hk (List.mem_singleton.mp hb ▸ ha)

theorem nodup_loop {acc : List (StreamMapKey × List JVal)} {rest : List JVal} {m : List (StreamMapKey × List JVal)}
    (h : fromCanonStreamLoop acc rest = .ok m) (hn : (acc.map (·.1)).Nodup) : (m.map (·.1)).Nodup := by
  induction rest generalizing acc with
  | nil => cases h; exact hn
  | cons kv rest ih =>
    obtain ⟨key, v, -, -, h⟩ := loop_cons_ok.mp h
    exact ih h (nodup_entryPush acc key v hn)

theorem member_eq_lookup (k : String) (l : List (String × JVal)) : member k l = l.lookup k := by
  induction l with
  | nil => rfl
  | cons p rest ih =>
    obtain ⟨k', v⟩ := p
    rw [JsonObj.lookup_cons']
    by_cases h : k = k' <;> simp [member, h, ih, eq_comm]

theorem asJson_member (m : CanonStreamMap) (hn : (m.map.map (·.1)).Nodup)
    (hinj : ∀ k k', k ∈ m.map.map (·.1) → k' ∈ m.map.map (·.1) → k.toKey = k'.toKey → k = k')
    (k : StreamMapKey) (group : List JVal) (hk : m.index k = some group) :
    navigateStep (m.asJvalue) (.key k.toKey) = some (.arr group) := by
  have hmem : (k, group) ∈ m.map := by
    obtain ⟨⟨k', g⟩, hf, rfl⟩ := Option.map_eq_some_iff.mp hk
    obtain rfl : k' = k := by simpa using List.find?_some hf
    exact List.mem_of_find?_eq_some hf
  have hkeys : ((m.map.map fun x => (x.1.toKey, JVal.arr x.2)).reverse.map Prod.fst).Nodup := by
    rw [List.map_reverse, List.map_map]
    exact JsonObj.nodup_reverse (List.pairwise_map.mpr ((List.pairwise_map.mp hn).imp_of_mem
      fun ha hb hne heq => hne (hinj _ _ (List.mem_map.mpr ⟨_, ha, rfl⟩) (List.mem_map.mpr ⟨_, hb, rfl⟩) heq)))
  obtain ⟨kvs, hobj, -, hlook⟩ := JsonObj.mkObj_sorted_lookup (m.map.map fun x => (x.1.toKey, JVal.arr x.2))
  rw [CanonStreamMap.asJvalue, hobj]
  simp only [navigateStep]
  rw [member_eq_lookup, hlook, JsonObj.finalMap, JsonObj.lookup_eq_some_iff_mem hkeys, List.mem_reverse]
  exact List.mem_map.mpr ⟨(k, group), hmem, rfl⟩

end AquaProps.Lemmas.Lens
