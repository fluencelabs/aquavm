import Aqua.Crypto.CidVerify
import AquaProps.Lemmas.Digits
import AquaProps.Lemmas.Varint
/-!
# The text of a JSON-codec CIDv1 parses back to the CID

For every id the crate can produce or accept — CIDv1, codec `JSON_CODEC`, multihash code SHA2-256 or
BLAKE3-256, a digest of at most 64 bytes — `Cid::try_from(cid.to_string())` is `Ok(cid)`.
-/
namespace AquaProps.CidText
open Aqua Aqua.Crypto.Multibase Aqua.Crypto.CidVerify AquaProps.Digits AquaProps.Varint

theorem ipfs_delim : IPFS_DELIMETER = [47, 105, 112, 102, 115, 47] := by decide

theorem findSub_none (s : Bytes) (i : Nat) (h : ∀ c ∈ s, c ≠ 47) : findSub IPFS_DELIMETER s i = none := by
  induction s generalizing i with
  | nil => simp [findSub, ipfs_delim]
  | cons c cs ih =>
    have hc : c ≠ 47 := h c (by simp)
    have hc' : ((47 : UInt8) == c) = false := by
      simp only [beq_eq_false_iff_ne, ne_eq]; exact fun e => hc e.symm
    unfold findSub
    rw [ipfs_delim]
    simp only [List.isPrefixOf, hc', Bool.false_and, Bool.false_eq_true, if_false]
    rw [← ipfs_delim]
    exact ih _ fun x hx => h x (by simp [hx])

theorem multihash_read (code : Nat) (digest rest : Bytes) (hc : code < 2 ^ 64) (h : digest.length ≤ 64) :
    Multihash.read (Multihash.toBytes ⟨code, digest⟩ ++ rest) = some (⟨code, digest⟩, rest) := by
  unfold Multihash.toBytes Multihash.read
  simp only [List.append_assoc]
  rw [readU64_encodeVarint code hc]
  simp only
  rw [readU64_encodeVarint digest.length (by omega)]
  have h1 : (decide (digest.length > allocSize) || decide (digest.length > 255)) = false := by
    simp only [allocSize, gt_iff_lt, Bool.or_eq_false_iff, decide_eq_false_iff_not, Nat.not_lt]
    omega
  have h2 : ¬ (digest ++ rest).length < digest.length := by simp
  simp only [h1, Bool.false_eq_true, if_false, h2, List.take_left', List.drop_left']

theorem readBytes_toBytesV1 (c : Cid) (rest : Bytes) (hv : c.version = .V1) (hcodec : c.codec < 2 ^ 64)
    (hcode : c.hash.code < 2 ^ 64) (hlen : c.hash.digest.length ≤ 64) :
    Cid.readBytes (c.toBytesV1 ++ rest) = .ok c := by
  obtain ⟨version, codec, ⟨code, digest⟩⟩ := c
  simp only at hv hcodec hcode hlen
  subst hv
  unfold Cid.toBytesV1
  simp only [List.append_assoc]
  unfold Cid.readBytes varintReadU64
  rw [readU64_encodeVarint 1 (by decide)]
  simp only
  rw [readU64_encodeVarint codec hcodec]
  simp only
  have hv : ((1 : Nat) == 0x12 && codec == 0x20) = false := by simp
  simp only [hv, Bool.false_eq_true, if_false]
  have ht : Version.tryFrom 1 = .ok .V1 := by decide
  rw [ht]
  simp only
  rw [multihash_read code digest rest hcode hlen]
  simp only [Cid.new, Cid.newV1]

theorem code_small (c : Code) : c.toU64 < 2 ^ 64 := by cases c <;> decide

theorem toStringV1_eq (c : Cid) :
    c.toStringV1 = 98 :: BASE32_NOPAD_LOWER.encodeBase c.toBytesV1 := by
  simp [Cid.toStringV1, encodeBase32Lower, Base.code]

theorem toBytesV1_length_pos (c : Cid) : 1 ≤ c.toBytesV1.length := by
  unfold Cid.toBytesV1
  have : encodeVarint 1 = [1] := by decide
  rw [this]
  simp only [List.cons_append, List.length_cons]
  omega

theorem tryFromStr_toStringV1' (c : Cid) (hv : c.version = .V1) (hcodec : c.codec < 2 ^ 64)
    (hcode : c.hash.code < 2 ^ 64) (hlen : c.hash.digest.length ≤ 64) :
    Cid.tryFromStr c.toStringV1 = .ok c := by
  have hrb : Cid.readBytes c.toBytesV1 = .ok c := by
    have := readBytes_toBytesV1 c [] hv hcodec hcode hlen
    rwa [List.append_nil] at this
  rw [toStringV1_eq]
  unfold Cid.tryFromStr
  have hfind : findSub IPFS_DELIMETER (98 :: BASE32_NOPAD_LOWER.encodeBase c.toBytesV1) 0 = none := by
    apply findSub_none
    intro x hx
    rcases List.mem_cons.mp hx with hx | hx
    · subst hx; decide
    · exact encodeBase_symbols _ x hx
  rw [hfind]
  simp only
  have hlen : ¬ (98 :: BASE32_NOPAD_LOWER.encodeBase c.toBytesV1).length < 2 := by
    rw [List.length_cons, encodeBase_length]
    have := toBytesV1_length_pos c
    omega
  simp only [hlen, if_false]
  have hv0 : Version.isV0Str (98 :: BASE32_NOPAD_LOWER.encodeBase c.toBytesV1) = false := by
    have : (ascii "Qm") = [81, 109] := by decide
    simp [Version.isV0Str, this, List.isPrefixOf]
  rw [hv0]
  simp only [Bool.false_eq_true, if_false]
  have hdec : Aqua.Crypto.Multibase.decode (98 :: BASE32_NOPAD_LOWER.encodeBase c.toBytesV1) = some (.Base32Lower, c.toBytesV1) := by
    unfold Aqua.Crypto.Multibase.decode
    have : Base.fromCode 98 = some .Base32Lower := by decide
    simp only [this, Base.decode, decode_encode_base32, Option.map_some]
  rw [hdec]
  simp only [Option.map_some]
  exact hrb

/-- the ids of this crate: JSON codec, SHA2-256 or BLAKE3-256 -/
theorem tryFromStr_toStringV1 (code : Code) (digest : Bytes) (h : digest.length ≤ 64) :
    Cid.tryFromStr (Cid.newV1 JSON_CODEC ⟨code.toU64, digest⟩).toStringV1 =
      .ok (Cid.newV1 JSON_CODEC ⟨code.toU64, digest⟩) :=
  tryFromStr_toStringV1' _ rfl (show JSON_CODEC < 2 ^ 64 by decide)
    (code_small code) h

end AquaProps.CidText
