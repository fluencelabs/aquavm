import AquaProps.Lemmas.TraceFoldOps
/-!
Fold lore tiling: what `SubTraceLoreCtor` / `SubTraceLoreCtorQueue` build for one batch.

A batch is driven as the executor drives it (`fold_stream/stream_execute_helpers.rs`, `next.rs`):
`meet_iteration_start v₁; …B₁…; meet_iteration_end; meet_iteration_start v₂; …; [meet_iteration_end];
meet_back_iterator; …A_k…; meet_back_iterator; …; meet_generation_end` — or any prefix of that followed by
`meet_generation_end` (early exit on a catchable error: `SubTraceLoreCtorQueue::finish` closes what is open).
-/
namespace Aqua.Trace
open Aqua Aqua.Data

abbrev Ctor := SubTraceLoreCtor

def SubTraceLoreCtor.before (c : Ctor) : Nat × Nat := (c.beforeStart, c.beforeEnd)
def SubTraceLoreCtor.after (c : Ctor) : Nat × Nat := (c.afterStart, c.afterEnd)

/-- the ranges `r c` of a list of constructors follow each other from `c0` to `e` -/
def Chain (r : Ctor → Nat × Nat) (c0 : Nat) : List Ctor → Nat → Prop
  | [], e => c0 = e
  | c :: rest, e => (r c).1 = c0 ∧ c0 ≤ (r c).2 ∧ Chain r (r c).2 rest e

namespace Chain
variable {r r' : Ctor → Nat × Nat} {c0 m e : Nat} {a b : List Ctor}

theorem append (ha : Chain r c0 a m) (hb : Chain r m b e) : Chain r c0 (a ++ b) e := by
  induction a generalizing c0 with
  | nil => cases ha; exact hb
  | cons c rest ih => exact ⟨ha.1, ha.2.1, ih ha.2.2⟩

theorem split (h : Chain r c0 (a ++ b) e) : ∃ m, Chain r c0 a m ∧ Chain r m b e := by
  induction a generalizing c0 with
  | nil => exact ⟨c0, rfl, h⟩
  | cons c rest ih =>
    obtain ⟨m, h1, h2⟩ := ih h.2.2
    exact ⟨m, ⟨h.1, h.2.1, h1⟩, h2⟩

theorem le (h : Chain r c0 a e) : c0 ≤ e := by
  induction a generalizing c0 with
  | nil => cases h; exact Nat.le_refl _
  | cons c rest ih => exact Nat.le_trans h.2.1 (ih h.2.2)

theorem map {g : Ctor → Ctor} (hg : ∀ c ∈ a, r' (g c) = r c) (h : Chain r c0 a e) : Chain r' c0 (a.map g) e := by
  induction a generalizing c0 with
  | nil => exact h
  | cons c rest ih =>
    have hc := hg c List.mem_cons_self
    exact ⟨hc ▸ h.1, hc ▸ h.2.1, hc ▸ ih (fun x hx => hg x (List.mem_cons_of_mem _ hx)) h.2.2⟩

theorem replace {pre done : List Ctor} {cur : Ctor} (h : Chain r c0 (pre ++ cur :: done) e) (cur' : Ctor)
    (hr : r cur' = r cur) : Chain r c0 (pre ++ cur' :: done) e := by
  obtain ⟨m, h1, h2⟩ := h.split
  exact h1.append ⟨hr ▸ h2.1, hr ▸ h2.2.1, hr ▸ h2.2.2⟩

theorem single {c : Ctor} {s t : Nat} (hr : r c = (s, t)) (h : s ≤ t) : Chain r s [c] t := by
  simp [Chain, hr, h]

theorem const {n : Nat} (h : ∀ c ∈ a, r c = (n, n)) : Chain r n a n := by
  induction a with
  | nil => rfl
  | cons c rest ih =>
    have hc := h c List.mem_cons_self
    exact ⟨by rw [hc], by rw [hc]; exact Nat.le_refl _, by rw [hc]; exact ih fun x hx => h x (List.mem_cons_of_mem _ hx)⟩

end Chain

theorem set_mid {α : Type} (pre done : List α) (cur x : α) :
    (pre ++ cur :: done).set pre.length x = pre ++ x :: done := by
  rw [List.set_append_right _ _ (Nat.le_refl _), Nat.sub_self]; rfl

theorem get_mid {α : Type} (pre done : List α) (cur : α) : (pre ++ cur :: done)[pre.length]? = some cur := by
  rw [List.getElem?_append_right (Nat.le_refl _), Nat.sub_self]; rfl

/-- phases of one fold as the executor drives it -/
inductive Phase
  /-- between batches (after `meet_fold_start` / `meet_generation_end`): nothing may be pushed -/
  | idle
  /-- an iteration runs its before-part -/
  | fwd
  /-- `next` has closed the before-part; the next call is `meet_iteration_start`, `meet_back_iterator` or
  `meet_generation_end` -/
  | closed
  | back
deriving DecidableEq, Repr

/-- forward traversal of the batch started at `c0`: the iterations `pre` have closed before-parts chained from
`c0`; the before-part of the last one, `cur`, is open, or (`cl`) `next` has just closed it at `n` -/
def Fwd (cl : Bool) (c0 n : Nat) (f : FoldFSM) : Prop :=
  ∃ pre cur, f.ctors = pre ++ [cur] ∧ f.backTraversalPos = pre.length + 1 ∧ f.backTraversalStarted = false ∧
    (∀ c ∈ pre, c.state = .beforeCompleted) ∧ Chain SubTraceLoreCtor.before c0 pre cur.beforeStart ∧
    cur.beforeStart ≤ n ∧ cur.state = (if cl then .beforeCompleted else .beforeStarted) ∧ (cl = true → cur.beforeEnd = n)

/-- the queue of the running batch (started at `c0`) at result-trace length `n`: before-parts chained from `c0`,
completed after-parts (innermost first) chained from where the before-parts end -/
def ShapeOf (ph : Phase) (c0 n : Nat) (f : FoldFSM) : Prop :=
  match ph with
  | .idle => f.ctors = [] ∧ f.backTraversalPos = 0 ∧ f.backTraversalStarted = false ∧ c0 = n
  | .fwd => Fwd false c0 n f
  | .closed => Fwd true c0 n f
  | .back => ∃ pre cur done eB aE, f.ctors = pre ++ cur :: done ∧ f.backTraversalPos = pre.length + 1 ∧
      f.backTraversalStarted = true ∧ (∀ c ∈ pre, c.state = .beforeCompleted) ∧ cur.state = .afterStarted ∧
      (∀ c ∈ done, c.state = .afterCompleted) ∧ Chain SubTraceLoreCtor.before c0 (pre ++ cur :: done) eB ∧
      Chain SubTraceLoreCtor.after eB done.reverse aE ∧ cur.afterStart = aE ∧ aE ≤ n

namespace ShapeOf

theorem mono_fwd {c0 n n' : Nat} {f : FoldFSM} (hn : n ≤ n') (h : ShapeOf .fwd c0 n f) :
    ShapeOf .fwd c0 n' f := by
  obtain ⟨pre, cur, a, b, c, d, e, g, i, _⟩ := h
  exact ⟨pre, cur, a, b, c, d, e, Nat.le_trans g hn, i, nofun⟩

theorem mono_back {c0 n n' : Nat} {f : FoldFSM} (hn : n ≤ n') (h : ShapeOf .back c0 n f) :
    ShapeOf .back c0 n' f := by
  obtain ⟨pre, cur, done, eB, aE, a, b, c, d, e, g, i, j, k, l⟩ := h
  exact ⟨pre, cur, done, eB, aE, a, b, c, d, e, g, i, j, k, Nat.le_trans l hn⟩

end ShapeOf

attribute [local simp] SubTraceLoreCtor.before SubTraceLoreCtor.after SubTraceLoreCtor.beforeEnd'
  SubTraceLoreCtor.afterStart' SubTraceLoreCtor.afterEnd' SubTraceLoreCtor.maybeBeforeEnd CtorState.next
  DataKeeper.resultTraceNextPos Chain

variable {c0 : Nat} {f f' : FoldFSM} {k k' : DataKeeper}

theorem shape_iterStart_idle {vp : Nat} (sh : ShapeOf .idle c0 k.resultTrace.length f)
    (e : f.meetIterationStart vp k = .ok (f', k')) : ShapeOf .fwd c0 k.resultTrace.length f' := by
  obtain ⟨hc, hb, hs, rfl⟩ := sh
  obtain ⟨_, _, _, hc', hb', hs'⟩ := FoldFSM.meetIterationStart_eff e
  refine ⟨[], _, by rw [hc', hc], by rw [hb', hb]; rfl, hs'.trans hs, nofun, ?_, Nat.le_refl _, rfl, nofun⟩
  rfl

/-- the before-part just closed joins the chain -/
theorem shape_iterStart_closed {vp : Nat} (sh : ShapeOf .closed c0 k.resultTrace.length f)
    (e : f.meetIterationStart vp k = .ok (f', k')) : ShapeOf .fwd c0 k.resultTrace.length f' := by
  obtain ⟨pre, cur, hc, hb, hs, hall, hB, hle, hcur, hend⟩ := sh
  obtain ⟨_, _, _, hc', hb', hs'⟩ := FoldFSM.meetIterationStart_eff e
  refine ⟨pre ++ [cur], _, by rw [hc', hc], by rw [hb', hb, List.length_append]; rfl, hs'.trans hs, ?_,
    hB.append (.single (by rw [SubTraceLoreCtor.before, hend rfl]) hle), Nat.le_refl _, rfl, nofun⟩
  intro x hx
  rcases List.mem_append.mp hx with hx | hx
  · exact hall x hx
  · cases List.mem_singleton.mp hx; exact hcur

theorem shape_iterEnd (sh : ShapeOf .fwd c0 k.resultTrace.length f) (e : f.meetIterationEnd k = .ok f') :
    ShapeOf .closed c0 k.resultTrace.length f' := by
  obtain ⟨pre, cur, hc, hb, hs, hall, hB, hle, hcur, _⟩ := sh
  obtain ⟨i, c, hbi, hci, hc', _, _, hb', hs'⟩ := FoldFSM.meetIterationEnd_eff e
  obtain rfl : i = pre.length := by omega
  rw [hc, get_mid] at hci
  cases hci
  rw [hc, set_mid] at hc'
  exact ⟨pre, _, hc', hb'.trans hb, hs'.trans hs, hall, hB, hle, by simp [hcur], fun _ => rfl⟩

/-- the first `meet_back_iterator` of a batch, whether or not `next` has closed the last before-part -/
theorem shape_backIter_fwd {cl : Bool} (sh : Fwd cl c0 k.resultTrace.length f) (e : f.meetBackIterator k = .ok (f', k')) :
    ShapeOf .back c0 k.resultTrace.length f' := by
  obtain ⟨pre, cur, hc, hb, hs, hall, hB, hle, hcur, hend⟩ := sh
  obtain ⟨i, c, hbi, hci, hc', _, _, _, hb', hs'⟩ := FoldFSM.meetBackIterator_first_eff hs e
  obtain rfl : i = pre.length := by omega
  rw [hc, get_mid] at hci
  cases hci
  rw [hc, set_mid] at hc'
  refine ⟨pre, _, [], _, _, hc', hb'.trans hb, hs', hall, ?_, nofun, hB.append (.single ?_ hle), rfl, rfl, Nat.le_refl _⟩
  · cases cl <;> simp [hcur]
  · cases cl
    · simp [hcur]
    · simp [hcur, hend rfl]

theorem shape_backIter_back (sh : ShapeOf .back c0 k.resultTrace.length f) (e : f.meetBackIterator k = .ok (f', k')) :
    ShapeOf .back c0 k.resultTrace.length f' := by
  obtain ⟨pre, cur, done, eB, aE, hc, hb, hs, hall, hcur, hdone, hB, hA, hcs, hle⟩ := sh
  obtain ⟨j, c, c2, hbj, hcj1, hcj, hc', _, _, _, hb', hs'⟩ := FoldFSM.meetBackIterator_next_eff hs e
  -- the constructor before the current one exists: `pre = pre' ++ [p2]`
  have hpne : pre ≠ [] := fun h => by rw [h] at hb; simp at hb; omega
  obtain ⟨pre', p2, rfl⟩ : ∃ pre' p2, pre = pre' ++ [p2] := ⟨_, _, (List.dropLast_concat_getLast hpne).symm⟩
  obtain rfl : j = pre'.length := by simp at hb; omega
  have hl : pre'.length + 1 = (pre' ++ [p2]).length := by simp
  have hc2 : f.ctors = pre' ++ p2 :: cur :: done := by rw [hc, List.append_assoc]; rfl
  rw [hc2, get_mid] at hcj
  rw [hc, hl, get_mid] at hcj1
  cases hcj; cases hcj1
  rw [hc, hl, set_mid, List.append_assoc, List.singleton_append, set_mid] at hc'
  rw [List.append_assoc, List.singleton_append] at hB
  have hc2s : c2.state = .beforeCompleted := hall c2 (by simp)
  refine ⟨pre', _, cur.afterEnd' k :: done, eB, _, hc', hb', hs', fun x hx => hall x (by simp [hx]), by simp [hc2s],
    ?_, ?_, ?_, rfl, Nat.le_refl _⟩
  · intro x hx
    rcases List.mem_cons.mp hx with rfl | hx
    · simp [hcur]
    · exact hdone x hx
  · have h1 := hB.replace (c2.afterStart' k) rfl
    rw [← List.singleton_append, ← List.append_assoc] at h1 ⊢
    exact h1.replace _ rfl
  · rw [List.reverse_cons]
    exact hA.append (by simp [hcs, hle])

instance {ε : Type} : LawfulMonad (Res ε) := LawfulMonad.mk'
  (id_map := fun x => by cases x <;> rfl)
  (pure_bind := fun _ _ => rfl)
  (bind_assoc := fun x _ _ => by cases x <;> rfl)

/-- `(value_pos, begin of the before-part)` of a lore entry / of a constructor -/
def loreKey (l : FoldSubTraceLore) : Nat × Nat := (l.valuePos, (l.subtracesDesc.head?.map (·.beginPos)).getD 0)
def ctorKey (c : Ctor) : Nat × Nat := (c.valuePos, c.beforeStart)

/-- the lore entry `into_subtrace_lore` makes of a constructor -/
def ctorIter (c : Ctor) : Iter :=
  ⟨c.valuePos, c.beforeStart, truncU32 (c.beforeEnd - c.beforeStart), c.afterStart, truncU32 (c.afterEnd - c.afterStart)⟩

theorem intoSubtraceLore_ok {c : Ctor} {l : FoldSubTraceLore} (e : c.intoSubtraceLore = .ok l) :
    loreIter l = some (ctorIter c) ∧ loreKey l = ctorKey c := by
  unfold SubTraceLoreCtor.intoSubtraceLore at e
  simp only [Res.bind_eq_ok, Res.pure_eq_ok, subU32_eq_ok] at e
  obtain ⟨_, ⟨_, rfl⟩, _, ⟨_, rfl⟩, rfl⟩ := e
  exact ⟨rfl, rfl⟩

theorem mapM_intoSubtraceLore {cs : List Ctor} {lore : List FoldSubTraceLore}
    (e : cs.mapM SubTraceLoreCtor.intoSubtraceLore = .ok lore) :
    lore.mapM loreIter = some (cs.map ctorIter) ∧ lore.map loreKey = cs.map ctorKey := by
  induction cs generalizing lore with
  | nil => cases e; exact ⟨rfl, rfl⟩
  | cons c rest ih =>
    simp only [List.mapM_cons, Res.bind_eq_ok, Res.pure_eq_ok] at e
    obtain ⟨l, hl, ls, hls, rfl⟩ := e
    obtain ⟨h1, h2⟩ := intoSubtraceLore_ok hl
    obtain ⟨h3, h4⟩ := ih hls
    simp [List.mapM_cons, h1, h2, h3, h4]

theorem batchBefore_of_chain {c0 eB : Nat} {cs : List Ctor} (h : Chain SubTraceLoreCtor.before c0 cs eB) (hb : eB ≤ u32Max) :
    batchBefore c0 (cs.map ctorIter) = some eB := by
  induction cs generalizing c0 with
  | nil => cases h; rfl
  | cons c rest ih =>
    obtain ⟨h1, h2, h3⟩ := h
    have hle := h3.le
    simp only [SubTraceLoreCtor.before] at h1 h2 h3 hle
    subst h1
    simp only [List.map_cons, batchBefore, ctorIter, truncU32_of_le (n := c.beforeEnd - c.beforeStart) (by omega),
      if_true, Nat.add_sub_cancel' h2]
    exact ih h3

theorem batchAfter_of_chain {a0 e : Nat} {cs : List Ctor} (h : Chain SubTraceLoreCtor.after a0 cs e) (hb : e ≤ u32Max) :
    batchAfter a0 (cs.map ctorIter) = some e := by
  induction cs generalizing a0 with
  | nil => cases h; rfl
  | cons c rest ih =>
    obtain ⟨h1, h2, h3⟩ := h
    have hle := h3.le
    simp only [SubTraceLoreCtor.after] at h1 h2 h3 hle
    subst h1
    simp only [List.map_cons, batchAfter, ctorIter, truncU32_of_le (n := c.afterEnd - c.afterStart) (by omega),
      if_true, Nat.add_sub_cancel' h2]
    exact ih h3

theorem batchEnd_of_chains {c0 eB n : Nat} {cs : List Ctor} (hB : Chain SubTraceLoreCtor.before c0 cs eB)
    (hA : Chain SubTraceLoreCtor.after eB cs.reverse n) (hb : n ≤ u32Max) : batchEnd c0 (cs.map ctorIter) = some n := by
  rw [batchEnd, batchBefore_of_chain hB (Nat.le_trans hA.le hb), Option.bind_some, ← List.map_reverse]
  exact batchAfter_of_chain hA hb

theorem finish_ranges (c : Ctor) (k : DataKeeper) :
    (c.finish k).valuePos = c.valuePos ∧
    (c.finish k).before = (c.beforeStart, if c.state = .beforeStarted then k.resultTrace.length else c.beforeEnd) ∧
    (c.finish k).after =
      (if c.state = .beforeStarted ∨ c.state = .beforeCompleted then k.resultTrace.length else c.afterStart,
       if c.state = .afterCompleted then c.afterEnd else k.resultTrace.length) := by
  cases h : c.state <;> simp [SubTraceLoreCtor.finish, h]

/-- Whatever phase the batch is in when `meet_generation_end` comes, the lore entries it
appends are laid out as `B₁ … B_j A_j … A₁` exactly from the batch start `c0` to the current length `n`. -/
theorem shape_genEnd {ph : Phase} (hph : ph ≠ .idle) (hb : k.resultTrace.length ≤ u32Max)
    (sh : ShapeOf ph c0 k.resultTrace.length f) (e : f.meetGenerationEnd k = .ok f') :
    ∃ lore its, f'.resultLore = f.resultLore ++ lore ∧ lore.mapM loreIter = some its ∧ its ≠ [] ∧
      batchEnd c0 its = some k.resultTrace.length ∧ lore.map loreKey = f.ctors.map ctorKey ∧
      ShapeOf .idle k.resultTrace.length k.resultTrace.length f' ∧ f'.inserterPos = f.inserterPos := by
  obtain ⟨lore, hl, hrl, hc', hb', hs', hip⟩ := FoldFSM.meetGenerationEnd_eff e
  obtain ⟨hits, hvp⟩ := mapM_intoSubtraceLore hl
  have fin := fun c => finish_ranges c k
  have fB : ∀ {cs : List Ctor} {a z}, (∀ c ∈ cs, c.state ≠ .beforeStarted) → Chain SubTraceLoreCtor.before a cs z →
      Chain SubTraceLoreCtor.before a (cs.map (·.finish k)) z :=
    fun hall h => h.map fun c hc => by rw [(fin c).2.1, if_neg (hall c hc)]; rfl
  have fA : ∀ {cs : List Ctor}, (∀ c ∈ cs, c.state = .beforeCompleted) →
      Chain SubTraceLoreCtor.after k.resultTrace.length (cs.map (·.finish k)).reverse k.resultTrace.length :=
    fun hall => .const fun c hc => by
      obtain ⟨c', hc', rfl⟩ := List.mem_map.mp (List.mem_reverse.mp hc)
      rw [(fin c').2.2, hall c' hc']; rfl
  have fwd : ∀ {cl}, Fwd cl c0 k.resultTrace.length f →
      ∃ eB, Chain SubTraceLoreCtor.before c0 (f.ctors.map (·.finish k)) eB ∧
        Chain SubTraceLoreCtor.after eB (f.ctors.map (·.finish k)).reverse k.resultTrace.length ∧ f.ctors ≠ [] := by
    rintro cl ⟨pre, cur, hc, _, _, hall, hB, hle, hcur, hend⟩
    have hcb : (cur.finish k).before = (cur.beforeStart, k.resultTrace.length) := by
      rw [(fin cur).2.1, hcur]; cases cl
      · rfl
      · simp [hend rfl]
    have hca : (cur.finish k).after = (k.resultTrace.length, k.resultTrace.length) := by
      rw [(fin cur).2.2, hcur]; cases cl <;> rfl
    refine ⟨k.resultTrace.length, ?_, ?_, by rw [hc]; simp⟩
    · rw [hc, List.map_append]
      exact (fB (fun c hc h => by rw [hall c hc] at h; cases h) hB).append (.single hcb hle)
    · rw [hc, List.map_append, List.reverse_append]
      exact (Chain.single hca (Nat.le_refl _)).append (fA hall)
  have key : ∃ eB, Chain SubTraceLoreCtor.before c0 (f.ctors.map (·.finish k)) eB ∧
      Chain SubTraceLoreCtor.after eB (f.ctors.map (·.finish k)).reverse k.resultTrace.length ∧ f.ctors ≠ [] := by
    cases ph with
    | idle => exact absurd rfl hph
    | fwd => exact fwd sh
    | closed => exact fwd sh
    | back =>
      obtain ⟨pre, cur, done, eB, aE, hc, _, _, hall, hcur, hdone, hB, hA, hcs, hle⟩ := sh
      refine ⟨eB, fB ?_ (hc ▸ hB), ?_, by rw [hc]; simp⟩
      · intro c hcm h
        rw [hc] at hcm
        rcases List.mem_append.mp hcm with hx | hx
        · rw [hall c hx] at h; cases h
        · rcases List.mem_cons.mp hx with rfl | hx
          · rw [hcur] at h; cases h
          · rw [hdone c hx] at h; cases h
      · have hd : done.map (·.finish k) = done := by
          rw [List.map_congr_left (g := id) fun c hc => by simp [SubTraceLoreCtor.finish, hdone c hc], List.map_id]
        have hca : (cur.finish k).after = (aE, k.resultTrace.length) := by rw [(fin cur).2.2, hcur, hcs]; rfl
        rw [hc, List.map_append, List.map_cons, List.reverse_append, List.reverse_cons, hd, List.append_assoc]
        exact hA.append ((Chain.single hca hle).append (fA hall))
  obtain ⟨eB, hB, hA, hne⟩ := key
  refine ⟨lore, _, hrl, hits, by simpa using hne, batchEnd_of_chains hB hA hb, ?_, ⟨hc', hb', hs', rfl⟩, hip⟩
  rw [hvp, List.map_map]
  exact List.map_congr_left fun c _ => Prod.ext (fin c).1 (congrArg Prod.fst (fin c).2.1)

end Aqua.Trace
