import Aqua.Ref.Eval
/-!
# C16 lemmas, part 1: the reference evaluator on the flat sub-fragment

`FragA`: call / seq / par / xor / match / mismatch / scalar ap / fail / null / never with operands that
are literals, `%init_peer_id%`, `%timestamp%`, `%ttl%`, scalars or scalars with lenses (no fold, next,
new; no streams; `fail` with any argument but a canon stream with a lens).  On it the evaluator's state stays *flat* (one global frame, no
loops), bindings are only added, calls are only appended, and only the output names of the
instruction are bound (`Grows`).  The evaluator aborts only when the fuel runs out or a name is bound
twice (`eval_noAbort`).
-/
namespace AquaProps.C16
open Aqua Aqua.Json Aqua.Air Aqua.Ref

/-- operand kinds of the fragment -/
def FragV : Value → Bool
  | .initPeerId | .literal _ | .timestamp | .ttl | .number _ | .float _ | .boolean _ | .emptyArray
  | .scalar _ | .scalarWL _ _ => true
  | _ => false

/-- triplet parts the grammar allows in the fragment -/
def FragT : Value → Bool
  | .initPeerId | .literal _ | .scalar _ | .scalarWL _ _ => true
  | _ => false

theorem fragT_fragV {v : Value} (h : FragT v = true) : FragV v = true := by
  cases v <;> first | rfl | cases h

/-- the flat sub-fragment (no fold / next / new) -/
def FragA : Instr → Bool
  | .call p s f args out => FragT p && FragT s && FragT f && args.all FragV &&
      (match out with | .stream .. => false | _ => true)
  | .seq l r | .par l r | .xor l r => FragA l && FragA r
  | .match_ a b i | .mismatch a b i => FragV a && FragV b && FragA i
  | .ap arg out => FragV arg && (match out with | .scalar _ => true | _ => false)
  | .fail arg => (match arg with | .canonWL .. => false | _ => true)
  | .null | .never => true
  | _ => false

def binders : Instr → List String
  | .call _ _ _ _ out => (match out with | .scalar n => [n] | _ => [])
  | .ap _ out => (match out with | .scalar n => [n] | _ => [])
  | .seq l r | .par l r | .xor l r => binders l ++ binders r
  | .match_ _ _ i | .mismatch _ _ i => binders i
  | _ => []

/-- nesting depth = fuel needed -/
def depth : Instr → Nat
  | .seq l r | .par l r | .xor l r => 1 + max (depth l) (depth r)
  | .match_ _ _ i | .mismatch _ _ i => 1 + depth i
  | _ => 1

structure FlatS (s : State) : Prop where
  frames : ∃ g, s.frames = [g] ∧ g.hidden = false
  loops : s.loops = []

theorem FlatS.eq {s : State} (h : FlatS s) : ∃ vars calls, s = ⟨[⟨vars, false⟩], [], calls⟩ := by
  obtain ⟨frames, loops, calls⟩ := s
  obtain ⟨⟨⟨vars, hidden⟩, hg, hh⟩, hl⟩ := h
  simp only at hg hh hl
  subst hg hh hl
  exact ⟨vars, calls, rfl⟩

theorem findVar_setVar (vars : List (String × Option JVal)) (n m : String) (v : Option JVal) :
    findVar (setVar vars n v) m = if n = m then some v else findVar vars m := by
  induction vars with
  | nil => simp [setVar, findVar]
  | cons kv rest ih =>
    obtain ⟨k, w⟩ := kv
    by_cases hk : k = n
    · subst hk; by_cases hm : k = m <;> simp [setVar, findVar, hm]
    · by_cases hm : n = m
      · subst hm; simp [setVar, findVar, hk, ih]
      · simp [setVar, findVar, hk, hm, ih]

theorem lookup_flat (vars : List (String × Option JVal)) (calls : List Call) (n : String) :
    (⟨[⟨vars, false⟩], [], calls⟩ : State).lookup n = (match findVar vars n with
      | some (some v) => .val v
      | some none => .error
      | none => .undefined) := by
  simp only [State.lookup, lookupFrames, findLoop]
  rcases findVar vars n with _ | _ | _ <;> rfl

theorem canBind_iff {s : State} (h : FlatS s) (n : String) : s.canBind n = true ↔ ∀ v, s.lookup n ≠ .val v := by
  obtain ⟨vars, calls, rfl⟩ := h.eq
  rw [lookup_flat]
  simp only [State.canBind, findLoop]
  rcases findVar vars n with _ | _ | _ <;> simp

theorem flat_bind {s : State} (h : FlatS s) (n : String) (v : JVal) : FlatS (s.bind n v) := by
  obtain ⟨vars, calls, rfl⟩ := h.eq
  exact ⟨⟨_, rfl, rfl⟩, rfl⟩

theorem lookup_bind {s : State} (h : FlatS s) (n m : String) (v : JVal) :
    (s.bind n v).lookup m = if n = m then .val v else s.lookup m := by
  obtain ⟨vars, calls, rfl⟩ := h.eq
  simp only [State.bind, lookup_flat, findVar_setVar]
  by_cases h : n = m <;> simp only [h, if_true, if_false]

theorem flat_pushCall {s : State} (h : FlatS s) (c : Call) : FlatS (pushCall s c) := ⟨h.frames, h.loops⟩

structure Ext (s s' : State) : Prop where
  env : ∀ n v, s.lookup n = .val v → s'.lookup n = .val v
  calls : ∃ more, s'.calls = s.calls ++ more

namespace Ext

theorem refl (s : State) : Ext s s := ⟨fun _ _ h => h, ⟨[], by simp⟩⟩

theorem trans {a b c : State} (h1 : Ext a b) (h2 : Ext b c) : Ext a c := by
  obtain ⟨m1, e1⟩ := h1.calls
  obtain ⟨m2, e2⟩ := h2.calls
  exact ⟨fun n v h => h2.env n v (h1.env n v h), ⟨m1 ++ m2, by rw [e2, e1, List.append_assoc]⟩⟩

theorem mem_calls {s s' : State} (h : Ext s s') {x : Call} (hx : x ∈ s.calls) : x ∈ s'.calls := by
  obtain ⟨m, e⟩ := h.calls
  rw [e]; exact List.mem_append_left _ hx

end Ext

/-- `s'` comes from the flat state `s` by binding names of `bs` only and recording calls -/
structure Grows (bs : List String) (s s' : State) : Prop extends Ext s s' where
  flat : FlatS s'
  frame : ∀ n, n ∉ bs → s'.lookup n = s.lookup n

namespace Grows

theorem refl {s : State} (h : FlatS s) (bs : List String) : Grows bs s s := ⟨Ext.refl s, h, fun _ _ => rfl⟩

theorem trans {bs₁ bs₂ : List String} {a b c : State} (h1 : Grows bs₁ a b) (h2 : Grows bs₂ b c) :
    Grows (bs₁ ++ bs₂) a c :=
  ⟨h1.toExt.trans h2.toExt, h2.flat, fun n hn => by
    rw [List.mem_append, not_or] at hn
    rw [h2.frame n hn.2, h1.frame n hn.1]⟩

theorem mono {bs bs' : List String} {s s' : State} (h : Grows bs s s') (hs : bs ⊆ bs') : Grows bs' s s' :=
  ⟨h.toExt, h.flat, fun n hn => h.frame n fun hb => hn (hs hb)⟩

theorem canBind {bs : List String} {s s' : State} (h : Grows bs s s') (hs : FlatS s) {n : String} (hn : n ∉ bs) :
    s'.canBind n = s.canBind n := by
  rw [Bool.eq_iff_iff, canBind_iff h.flat, canBind_iff hs, h.frame n hn]

end Grows

theorem grows_bind {s : State} (h : FlatS s) (n : String) (v : JVal) (hc : s.canBind n = true) : Grows [n] s (s.bind n v) where
  env m w hm := by
    rw [lookup_bind h, if_neg]; · exact hm
    rintro rfl; exact (canBind_iff h n).mp hc w hm
  calls := ⟨[], by obtain ⟨vars, calls, rfl⟩ := h.eq; simp [State.bind]⟩
  flat := flat_bind h n v
  frame m hm := by rw [lookup_bind h, if_neg (by simpa [eq_comm] using hm)]

theorem grows_pushCall {s : State} (h : FlatS s) (c : Call) : Grows [] s (pushCall s c) :=
  ⟨⟨fun _ _ h => h, ⟨[c], rfl⟩⟩, flat_pushCall h c, fun _ _ => rfl⟩

theorem canBind_pushCall (s : State) (c : Call) (m : String) : (pushCall s c).canBind m = s.canBind m := rfl

def NoAbort (o : Outcome) : Prop := ∀ w, o ≠ .abort w

theorem noAbort_of_eq {o : Outcome} (h : NoAbort o) {w : String} (he : o = .abort w) : False := h w he

theorem operand_fragV (p : Params) (s : State) {v : Value} (h : FragV v = true) : ∃ g, operand p s v = some g := by
  cases v <;> first | exact ⟨_, rfl⟩ | cases h

theorem operands_fragV (p : Params) (s : State) : ∀ {args : List Value}, args.all FragV = true → ∃ ga, operands p s args = some ga
  | [], _ => ⟨_, rfl⟩
  | a :: rest, h => by
    simp only [List.all_cons, Bool.and_eq_true] at h
    obtain ⟨g, hg⟩ := operand_fragV p s h.1
    obtain ⟨gr, hgr⟩ := operands_fragV p s h.2
    simp only [operands, hg, hgr]
    cases g <;> exact ⟨_, rfl⟩

theorem eval_seq (O : Oracle) (p : Params) (fuel : Nat) (up : Bool) (l r : Instr) (s : State) :
    eval O p (fuel + 1) up (.seq l r) s =
      (match eval O p fuel false l s with
        | (.done, s1) => eval O p fuel false r s1
        | r1 => r1) := rfl

theorem eval_xor (O : Oracle) (p : Params) (fuel : Nat) (up : Bool) (l r : Instr) (s : State) :
    eval O p (fuel + 1) up (.xor l r) s =
      (match eval O p fuel false l s with
        | (.failed, s1) => eval O p fuel false r s1
        | r1 => r1) := rfl

theorem eval_ap (O : Oracle) (p : Params) (fuel : Nat) (up : Bool) (arg : Value) (name : String) (s : State) :
    eval O p (fuel + 1) up (.ap arg (.scalar name)) s =
      (match operand p s arg with
        | none => (.abort "operand outside the fragment", s)
        | some .undefined => (.blocked, s)
        | some .error => (.failed, s)
        | some (.val v) => if s.canBind name then (.done, s.bind name v) else (.abort ("scalar bound twice: " ++ name), s)) := rfl

def refTriplet (gp gs gf : Got JVal) : Got (String × String × String) :=
  (asString gp).bind fun a => (asString gs).bind fun b => (asString gf).bind fun c => .val (a, b, c)

def outOk (s : State) : CallOutput → Bool
  | .scalar name => s.canBind name
  | _ => true

/-- the reference `call` from its triplet `t` and its arguments `ga` on -/
def callResult (O : Oracle) (s : State) (out : CallOutput) (t : Got (String × String × String)) (ga : Got (List JVal)) :
    Outcome × State :=
  match t with
  | .undefined => (.blocked, s)
  | .error => (.failed, s)
  | .val (a, b, c) =>
    if outOk s out = false then (.abort "output scalar bound twice", s) else
    match ga with
    | .undefined => (.blocked, s)
    | .error => (.failed, s)
    | .val vs =>
      match O a b c vs with
      | .fail _ _ => (.failed, pushCall s ⟨a, b, c, vs⟩)
      | .ok v => (.done, match out with
        | .scalar name => (pushCall s ⟨a, b, c, vs⟩).bind name v
        | _ => pushCall s ⟨a, b, c, vs⟩)

theorem eval_call (O : Oracle) (p : Params) (fuel : Nat) (up : Bool) {peer svc func : Value} {args : List Value}
    {out : CallOutput} {s : State} {gp gs gf : Got JVal} {ga : Got (List JVal)}
    (hp : operand p s peer = some gp) (hs : operand p s svc = some gs) (hf : operand p s func = some gf)
    (ha : operands p s args = some ga) (hout : ∀ n pos, out ≠ .stream n pos) :
    eval O p (fuel + 1) up (.call peer svc func args out) s = callResult O s out (refTriplet gp gs gf) ga := by
  cases out with
  | stream n pos => exact absurd rfl (hout n pos)
  | none | scalar name =>
    dsimp only [eval]
    simp only [hp, hs, hf, ha, callResult, refTriplet, outOk]
    cases asString gp <;> simp only [Got.bind]
    cases asString gs <;> simp only []
    cases asString gf <;> simp only []
    simp only [Bool.not_eq_true']
    cases ga <;> rfl

theorem eval_call_frag (O : Oracle) (p : Params) (fuel : Nat) (up : Bool) {peer svc func : Value} {args : List Value}
    {out : CallOutput} (s : State) (hi : FragA (.call peer svc func args out) = true) :
    ∃ t ga, eval O p (fuel + 1) up (.call peer svc func args out) s = callResult O s out t ga := by
  simp only [FragA, Bool.and_eq_true] at hi
  obtain ⟨gp, hp⟩ := operand_fragV p s (fragT_fragV hi.1.1.1.1)
  obtain ⟨gs, hs⟩ := operand_fragV p s (fragT_fragV hi.1.1.1.2)
  obtain ⟨gf, hf⟩ := operand_fragV p s (fragT_fragV hi.1.1.2)
  obtain ⟨ga, ha⟩ := operands_fragV p s hi.1.2
  exact ⟨_, ga, eval_call O p fuel up hp hs hf ha (by rintro n pos rfl; simp at hi)⟩

theorem callResult_grows {O : Oracle} {s : State} {out : CallOutput} {bs : List String} (hs : FlatS s)
    (hbs : ∀ n, out = .scalar n → n ∈ bs) (t : Got (String × String × String)) (ga : Got (List JVal)) :
    Grows bs s (callResult O s out t ga).2 := by
  unfold callResult
  repeat' split
  all_goals first
    | exact .refl hs bs
    | exact (grows_pushCall hs _).mono (List.nil_subset _)
    | exact ((grows_pushCall hs _).trans (grows_bind (flat_pushCall hs _) _ _ (by simp_all [outOk, canBind_pushCall]))).mono
        (by simp_all)

theorem callResult_noAbort {O : Oracle} {s : State} {out : CallOutput} (h : outOk s out = true)
    (t : Got (String × String × String)) (ga : Got (List JVal)) : NoAbort (callResult O s out t ga).1 := by
  unfold callResult
  rw [h]
  repeat' split
  all_goals simp_all [NoAbort]

def condInstr (want : Bool) (a b : Value) (body : Instr) : Instr :=
  bif want then .match_ a b body else .mismatch a b body

theorem eval_cond (O : Oracle) (p : Params) (fuel : Nat) (up want : Bool) {a b : Value} (body : Instr) {s : State}
    {ga gb : Got JVal} (ha : operand p s a = some ga) (hb : operand p s b = some gb) :
    eval O p (fuel + 1) up (condInstr want a b body) s =
      (match ga.bind fun x => gb.bind fun y => Got.val (x == y) with
        | .undefined => (.blocked, s)
        | .error => (.failed, s)
        | .val v => if v = want then eval O p fuel false body s else (.failed, s)) := by
  cases want <;> dsimp only [condInstr, cond, eval] <;> simp only [ha, hb] <;> cases ga <;> cases gb <;> simp only [Got.bind]
  -- left: `mismatch` on two values, where `eval` asks whether they are equal and the statement whether `(x == y) = false`
  next x y => cases x == y <;> rfl

/-- the reference `par`, given the two branch outcomes (neither aborts) -/
def parOutcome (o1 o2 : Outcome) : Outcome :=
  match o1, o2 with
  | .failed, .failed => .failed
  | .done, _ | _, .done => .done
  | _, _ => .blocked

theorem eval_par_cases (O : Oracle) (p : Params) (fuel : Nat) (up : Bool) (l r : Instr) (s : State)
    {e1 e2 : Outcome × State} (h1 : eval O p fuel true l s = e1) (h2 : eval O p fuel true r e1.2 = e2) :
    (∃ w, e1.1 = .abort w ∧ eval O p (fuel + 1) up (.par l r) s = (.abort w, e1.2)) ∨
    (∃ w, e2.1 = .abort w ∧ eval O p (fuel + 1) up (.par l r) s = (.abort w, e2.2)) ∨
    (NoAbort e1.1 ∧ NoAbort e2.1 ∧ eval O p (fuel + 1) up (.par l r) s = (parOutcome e1.1 e2.1, e2.2)) := by
  dsimp only [eval]
  rw [h1]
  obtain ⟨o1, s1⟩ := e1
  cases o1 <;> simp only [] <;> first
    | exact .inl ⟨_, rfl, rfl⟩
    | (rw [h2]
       obtain ⟨o2, s2⟩ := e2
       cases o2 <;> first
         | exact .inr (.inl ⟨_, rfl, rfl⟩)
         | exact .inr (.inr ⟨fun _ => (nomatch ·), fun _ => (nomatch ·), rfl⟩))

theorem parOutcome_noAbort (o1 o2 : Outcome) : NoAbort (parOutcome o1 o2) := by
  unfold parOutcome; split <;> exact fun _ => (nomatch ·)

theorem depth_pos (i : Instr) : 0 < depth i := by
  unfold depth; split <;> omega

theorem eval_frag (O : Oracle) (p : Params) : ∀ (fuel : Nat) (up : Bool) (i : Instr) (s : State),
    FragA i = true → FlatS s →
    Grows (binders i) s (eval O p fuel up i s).2 ∧
    (depth i ≤ fuel → (binders i).Nodup → (∀ n ∈ binders i, s.canBind n = true) → NoAbort (eval O p fuel up i s).1)
  | 0, _, i, s, _, hs => ⟨.refl hs _, fun hd => absurd (depth_pos i) (Nat.not_lt.mpr hd)⟩
  | fuel + 1, up, i, s, hi, hs => by
    have ih := eval_frag O p fuel
    -- the right operand of `seq` / `xor` / `par` runs in a state where its binders are still free
    have hright : ∀ {l r : Instr} {s1 : State}, Grows (binders l) s s1 → (binders l ++ binders r).Nodup →
        (∀ n ∈ binders l ++ binders r, s.canBind n = true) → ∀ n ∈ binders r, s1.canBind n = true := by
      intro l r s1 g hnd hcb n hn
      rw [g.canBind hs fun hl => (List.nodup_append.mp hnd).2.2 n hl n hn rfl]
      exact hcb n (List.mem_append_right _ hn)
    cases i with
    | null | never => exact ⟨.refl hs _, fun _ _ _ _ => (nomatch ·)⟩
    | fail arg => cases arg <;> first | (simp [FragA] at hi; done) | exact ⟨.refl hs _, fun _ _ _ _ => (nomatch ·)⟩
    | seq l r | xor l r =>
      simp only [FragA, Bool.and_eq_true] at hi
      obtain ⟨g1, n1⟩ := ih false l s hi.1 hs
      dsimp only [eval, binders, depth]
      split
      · next s1 he =>
        rw [he] at g1
        obtain ⟨g2, n2⟩ := ih false r s1 hi.2 g1.flat
        exact ⟨g1.trans g2, fun hd hnd hcb => n2 (by omega) (List.nodup_append.mp hnd).2.1 (hright g1 hnd hcb)⟩
      · exact ⟨g1.mono (List.subset_append_left _ _), fun hd hnd hcb =>
          n1 (by omega) (List.nodup_append.mp hnd).1 fun n hn => hcb n (List.mem_append_left _ hn)⟩
    | par l r =>
      simp only [FragA, Bool.and_eq_true] at hi
      obtain ⟨g1, n1⟩ := ih true l s hi.1 hs
      obtain ⟨g2, n2⟩ := ih true r _ hi.2 g1.flat
      dsimp only [binders, depth]
      rcases eval_par_cases O p fuel up l r s rfl rfl with ⟨w, hw, he⟩ | ⟨w, hw, he⟩ | ⟨-, -, he⟩ <;> rw [he]
      · exact ⟨g1.mono (List.subset_append_left _ _), fun hd hnd hcb => absurd hw
          (n1 (by omega) (List.nodup_append.mp hnd).1 (fun n hn => hcb n (List.mem_append_left _ hn)) w)⟩
      · exact ⟨g1.trans g2, fun hd hnd hcb =>
          absurd hw (n2 (by omega) (List.nodup_append.mp hnd).2.1 (hright g1 hnd hcb) w)⟩
      · exact ⟨g1.trans g2, fun _ _ _ => parOutcome_noAbort _ _⟩
    | match_ a b body | mismatch a b body =>
      simp only [FragA, Bool.and_eq_true] at hi
      obtain ⟨gbody, nbody⟩ := ih false body s hi.2 hs
      obtain ⟨ga, hga⟩ := operand_fragV p s hi.1.1
      obtain ⟨gb, hgb⟩ := operand_fragV p s hi.1.2
      dsimp only [eval, binders, depth]
      simp only [hga, hgb]
      repeat' split
      all_goals first
        | exact ⟨.refl hs _, fun _ _ _ _ => (nomatch ·)⟩
        | exact ⟨gbody, fun hd => nbody (by omega)⟩
    | ap arg out =>
      cases out with
      | scalar name =>
        simp only [FragA, Bool.and_eq_true] at hi
        obtain ⟨g, hg⟩ := operand_fragV p s hi.1
        rw [eval_ap, hg]
        rcases g with v | _ | _ <;> dsimp only [binders]
        · split
          · exact ⟨grows_bind hs _ _ ‹_›, fun _ _ _ _ => (nomatch ·)⟩
          · exact ⟨.refl hs _, fun _ _ hcb => absurd (hcb name (List.mem_singleton_self _)) ‹_›⟩
        all_goals exact ⟨.refl hs _, fun _ _ _ _ => (nomatch ·)⟩
      | none | stream _ _ => simp [FragA] at hi
    | call peer svc func args out =>
      obtain ⟨t, ga, he⟩ := eval_call_frag O p fuel up s hi
      rw [he]
      exact ⟨callResult_grows hs (fun n hn => by simp [binders, hn]) _ _, fun _ _ hcb =>
        callResult_noAbort (by cases out <;> first | rfl | exact hcb _ (by simp [binders])) _ _⟩
    | _ => cases hi

theorem eval_ext (O : Oracle) (p : Params) (fuel : Nat) (up : Bool) (i : Instr) (s : State) (hi : FragA i = true)
    (hs : FlatS s) : Grows (binders i) s (eval O p fuel up i s).2 :=
  (eval_frag O p fuel up i s hi hs).1

theorem eval_noAbort (O : Oracle) (p : Params) (fuel : Nat) (up : Bool) (i : Instr) (s : State) (hi : FragA i = true)
    (hs : FlatS s) (hd : depth i ≤ fuel) (hnd : (binders i).Nodup) (hcb : ∀ n ∈ binders i, s.canBind n = true) :
    NoAbort (eval O p fuel up i s).1 :=
  (eval_frag O p fuel up i s hi hs).2 hd hnd hcb

end AquaProps.C16
