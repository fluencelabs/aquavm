import AquaProps.Lemmas.Rel
import AquaProps.Lemmas.CtxFrames
/-!
The C17 invariant on execution contexts.

`PairOK env cid t p` — a (tetraplet, provenance) pair is *justified by the data*: when the provenance
is a service result, the tetraplet is a lens-extension of a tetraplet whose CID is a key of the
tetraplet store — or it is the erased one a functor leaves behind.  (CIDs are content addresses;
`Keyed` says the tetraplet store's keys are the CIDs of its values, which the preparation stage
verifies for incoming data.)

`EnvInv env c` (in `EnvInvExec.lean`) — every aggregate in the scalar store (all cells, all fold
iterables), in the stream store, in the canon streams and both error descriptors are justified by
`c.cid`, and `c.cid.tetraplets` is keyed by content.
-/
namespace AquaProps
open Aqua Aqua.Exec Aqua.Air Aqua.Trace Aqua.Json Aqua.Data

def Keyed (env : Env) (cid : CidState) : Prop := ∀ e ∈ cid.tetraplets, e.1 = env.hash e.2.json

def IsErased (t : Tetraplet) : Prop := t.peerPk = "" ∧ t.serviceId = "" ∧ t.functionName = ""

/-- `t` extends (by a lens) a tetraplet whose content id is a key of the tetraplet store -/
def Recorded (env : Env) (cid : CidState) (t : Tetraplet) : Prop :=
  ∃ (t0 : Tetraplet) (l : String), env.hash t0.json ∈ keys cid.tetraplets ∧ t = t0.addLens l

def PairOK (env : Env) (cid : CidState) (t : Tetraplet) : Provenance → Prop
  | .serviceResult _ => IsErased t ∨ Recorded env cid t
  | _ => True

abbrev TP := Tetraplet → Provenance → Prop

def AggP (P : TP) (v : ValueAggregate) : Prop := P v.tetraplet v.provenance

def AllAgg (P : TP) (l : List ValueAggregate) : Prop := ∀ v ∈ l, AggP P v

/-- closure properties every instance of the pair predicate used below has -/
structure LensClosed (P : TP) : Prop where
  addLens : ∀ t p l, P t p → P (t.addLens l) p
  erased : ∀ t p, IsErased t → P t p
  nonService : ∀ t p, (∀ k, p ≠ .serviceResult k) → P t p

theorem addLens_addLens (t : Tetraplet) (a b : String) : (t.addLens a).addLens b = t.addLens (a ++ b) := by
  simp [Tetraplet.addLens, String.append_assoc]

theorem addLens_empty (t : Tetraplet) : t.addLens "" = t := by
  cases t; simp [Tetraplet.addLens]

theorem pairOK_closed (env : Env) (cid : CidState) : LensClosed (PairOK env cid) where
  addLens t p l h := by
    cases p with
    | serviceResult k =>
      rcases h with h | ⟨t0, l0, h1, rfl⟩
      · exact Or.inl h
      · exact Or.inr ⟨t0, l0 ++ l, h1, addLens_addLens ..⟩
    | _ => trivial
  erased t p h := by
    cases p with
    | serviceResult k => exact Or.inl h
    | _ => trivial
  nonService t p h := by
    cases p with
    | serviceResult k => exact absurd rfl (h k)
    | _ => trivial

theorem populate_ok {P : TP} (hP : LensClosed P) {t : Tetraplet} {p : Provenance} (l : Lambda) (h : P t p) :
    P (populateTetrapletWithLambda t l) p := by
  cases l with
  | path as => exact hP.addLens _ _ _ h
  | functorLength => exact hP.erased _ _ ⟨rfl, rfl, rfl⟩

theorem new_ok {P : TP} (hP : LensClosed P) (v : JVal) {t : Tetraplet} (pos : Nat) {p : Provenance} (h : P t p) :
    AggP P (ValueAggregate.new v t pos p) := by
  cases p with
  | serviceResult k => exact h
  | _ => exact hP.nonService _ _ nofun

/-- `va` carries the tetraplet `t`, up to the normal form `ValueAggregate::new` stores: a service result keeps the whole
tetraplet, the literal variant may keep the peer only -/
def Carries (va : ValueAggregate) (t : Tetraplet) : Prop :=
  (∀ k, va.provenance = .serviceResult k → va.tetraplet = t) ∧
  (va.provenance = .literal → va.tetraplet = t ∨ va.tetraplet = Tetraplet.literal t.peerPk)

theorem carries_self (va : ValueAggregate) : Carries va va.tetraplet := ⟨fun _ _ => rfl, fun _ => Or.inl rfl⟩

theorem new_provenance (v : JVal) (t : Tetraplet) (pos : Nat) (p : Provenance) : (ValueAggregate.new v t pos p).provenance = p := by
  cases p <;> rfl

theorem carries_new (v : JVal) (t : Tetraplet) (pos : Nat) (p : Provenance) : Carries (ValueAggregate.new v t pos p) t := by
  cases p <;> simp [Carries, ValueAggregate.new]

def KeysGrow (a b : CidState) : Prop := ∀ k, k ∈ keys a.tetraplets → k ∈ keys b.tetraplets

theorem KeysGrow.refl (a : CidState) : KeysGrow a a := fun _ h => h
theorem KeysGrow.trans {a b c : CidState} (h1 : KeysGrow a b) (h2 : KeysGrow b c) : KeysGrow a c := fun k h => h2 k (h1 k h)

theorem pairOK_mono {env : Env} {a b : CidState} (g : KeysGrow a b) {t : Tetraplet} {p : Provenance}
    (h : PairOK env a t p) : PairOK env b t p := by
  cases p with
  | serviceResult k => exact h.imp_right fun ⟨t0, l, h1, h2⟩ => ⟨t0, l, g _ h1, h2⟩
  | _ => trivial

theorem keyed_trackTetraplet {env : Env} {s : CidState} (t : Tetraplet) (h : Keyed env s) :
    Keyed env (trackTetraplet env s t).2 :=
  forall_mem_upsert h rfl

theorem keysGrow_trackTetraplet (env : Env) (s : CidState) (t : Tetraplet) : KeysGrow s (trackTetraplet env s t).2 :=
  fun _ hk => keys_upsert_mono _ _ _ hk

theorem key_trackTetraplet (env : Env) (s : CidState) (t : Tetraplet) : env.hash t.json ∈ keys (trackTetraplet env s t).2.tetraplets :=
  key_mem_upsert _ _ _

theorem trackValue_tetraplets (env : Env) (s : CidState) (v : JVal) : (trackValue env s v).2.tetraplets = s.tetraplets := rfl

def Grows (env : Env) (a b : CidState) : Prop := KeysGrow a b ∧ (Keyed env a → Keyed env b)

theorem Grows.refl (env : Env) (a : CidState) : Grows env a a := ⟨KeysGrow.refl a, id⟩
theorem Grows.trans {env : Env} {a b c : CidState} (h1 : Grows env a b) (h2 : Grows env b c) : Grows env a c :=
  ⟨h1.1.trans h2.1, h2.2 ∘ h1.2⟩

theorem grows_trackTetraplet (env : Env) (s : CidState) (t : Tetraplet) : Grows env s (trackTetraplet env s t).2 :=
  ⟨keysGrow_trackTetraplet env s t, keyed_trackTetraplet t⟩

theorem Grows.congr {env : Env} {a b b' : CidState} (h : Grows env a b) (ht : b'.tetraplets = b.tetraplets) : Grows env a b' := by
  unfold Grows KeysGrow Keyed at *
  rw [ht]; exact h

/-! The other trackers touch the tetraplet store through `trackTetraplet` only (`trackValue_tetraplets`). -/

theorem grows_trackServiceResult (env : Env) (s : CidState) (v : JVal) (t : Tetraplet) (ah : String) :
    Grows env s (trackServiceResult env s v t ah).2 := (grows_trackTetraplet env s t).congr rfl

theorem recorded_trackServiceResult (env : Env) (s : CidState) (v : JVal) (t : Tetraplet) (ah : String) :
    Recorded env (trackServiceResult env s v t ah).2 t :=
  ⟨t, "", key_trackTetraplet env s t, (addLens_empty t).symm⟩

theorem grows_foldl {env : Env} {γ δ : Type} {f : γ × CidState → δ → γ × CidState} (hf : ∀ acc v, Grows env acc.2 (f acc v).2) :
    ∀ (vals : List δ) (acc : γ × CidState), Grows env acc.2 (vals.foldl f acc).2
  | [], _ => Grows.refl env _
  | v :: rest, acc => (hf acc v).trans (grows_foldl hf rest (f acc v))

theorem grows_trackCanonResult (env : Env) (s : CidState) (cs : CanonStream) : Grows env s (trackCanonResult env s cs).2 := by
  have h := grows_foldl (f := fun (acc : List Cid × CidState) v => let (cid, s') := trackCanonValue env acc.2 v; (acc.1 ++ [cid], s'))
    (fun acc v => (grows_trackTetraplet env acc.2 v.tetraplet).congr rfl) cs.values ([], s)
  exact (h.trans (grows_trackTetraplet env _ cs.tetraplet)).congr rfl

section sparse
variable {α : Type} {Q : α → Prop}

def StackOK (Q : α → Prop) (stack : List (SparseCell α)) : Prop :=
  ∀ cell ∈ stack, ∀ v, cell.value = some v → Q v

def CellsOK (Q : α → Prop) (cells : List (String × List (SparseCell α))) : Prop :=
  ∀ e ∈ cells, StackOK Q e.2

theorem cellsOK_mono {Q Q' : α → Prop} (h : ∀ v, Q v → Q' v) {cells : List (String × List (SparseCell α))} (hs : CellsOK Q cells) :
    CellsOK Q' cells := fun e he cell hc v hv => h _ (hs e he cell hc v hv)

theorem stackOK_single (d : Nat) {o : Option α} (h : ∀ v, o = some v → Q v) : StackOK Q [⟨d, o⟩] := by
  intro cell hc
  rw [List.mem_singleton.mp hc]; exact h

theorem stackOK_append {a b : List (SparseCell α)} (ha : StackOK Q a) (hb : StackOK Q b) : StackOK Q (a ++ b) :=
  fun cell hc => (List.mem_append.mp hc).elim (ha cell) (hb cell)

theorem stackOK_dropLast {a : List (SparseCell α)} (ha : StackOK Q a) : StackOK Q a.dropLast :=
  fun cell hc => ha cell (List.dropLast_subset a hc)

theorem getCells_ok {m : SparseMatrix α} {name : String} {stack : List (SparseCell α)}
    (hc : CellsOK Q m.cells) (h : m.getCells name = some stack) : StackOK Q stack :=
  hc _ (lookup_mem h)

theorem setValue_eq {m m' : SparseMatrix α} {name : String} {v : α} {b : Bool} (h : m.setValue name v = .ok (b, m')) :
    ∃ st d, m' = m.setCells name (st ++ [⟨d, some v⟩]) ∧ ∀ cell ∈ st, ∃ cells, m.getCells name = some cells ∧ cell ∈ cells := by
  have hnil : ∀ cell ∈ ([] : List (SparseCell α)), ∃ cells, m.getCells name = some cells ∧ cell ∈ cells :=
    fun _ hc => absurd hc List.not_mem_nil
  simp only [SparseMatrix.setValue] at h
  split at h
  · cases h; exact ⟨[], _, rfl, hnil⟩
  · rename_i cells hg
    split at h
    · cases h
    · split at h
      · cases h; exact ⟨[], _, rfl, hnil⟩
      · split at h <;> cases h
        · exact ⟨cells.dropLast, _, rfl, fun cell hc => ⟨cells, hg, List.dropLast_subset _ hc⟩⟩
        · exact ⟨cells, _, rfl, fun cell hc => ⟨cells, hg, hc⟩⟩

theorem setValue_ok {m m' : SparseMatrix α} {name : String} {v : α} {b : Bool}
    (hc : CellsOK Q m.cells) (hv : Q v) (h : m.setValue name v = .ok (b, m')) : CellsOK Q m'.cells := by
  obtain ⟨st, d, rfl, hst⟩ := setValue_eq h
  refine forall_mem_upsert hc (stackOK_append (fun cell hcell => ?_) (stackOK_single d fun w hw => Option.some.inj hw ▸ hv))
  obtain ⟨cells, hg, hm⟩ := hst cell hcell
  exact getCells_ok hc hg cell hm

theorem getValue_ok {m : SparseMatrix α} {name : String} {v : α}
    (hc : CellsOK Q m.cells) (h : m.getValue name = .ok (some v)) : Q v := by
  unfold SparseMatrix.getValue at h
  split at h
  · cases h
  · rename_i cells hg
    split at h
    · cases h
    · rename_i last hl
      split at h
      · exact getCells_ok hc hg last (List.mem_of_getLast? hl) v (Res.ok.inj h)
      · cases h

theorem cleanup_ok {m : SparseMatrix α} (hc : CellsOK Q m.cells) : CellsOK Q m.cleanupObsoleteValues.cells := by
  intro e he
  obtain ⟨⟨n0, st0⟩, he0, hf⟩ := List.mem_filterMap.mp he
  have h0 := hc _ he0
  simp only at hf
  split at hf
  · cases hf
  · split at hf
    · split at hf <;> cases hf
      exact stackOK_dropLast h0
    · cases hf; exact h0

theorem meetNextAfter_ok {m m' : SparseMatrix α} (hc : CellsOK Q m.cells) (h : m.meetNextAfter = .ok m') :
    CellsOK Q m'.cells := by
  unfold SparseMatrix.meetNextAfter at h
  split at h <;> cases h
  exact cleanup_ok (m := { m with currentDepth := _, allowedDepths := _ }) hc

theorem meetFoldEnd_ok {m m' : SparseMatrix α} (hc : CellsOK Q m.cells) (h : m.meetFoldEnd = .ok m') :
    CellsOK Q m'.cells := by
  unfold SparseMatrix.meetFoldEnd at h
  split at h <;> cases h
  exact cleanup_ok (m := { m with currentDepth := _, allowedDepths := _ }) hc

theorem meetNewStart_ok {m : SparseMatrix α} (name : String) (hc : CellsOK Q m.cells) :
    CellsOK Q (m.meetNewStart name).cells := by
  have hnone : ∀ d, StackOK Q [(⟨d, none⟩ : SparseCell α)] := fun d => stackOK_single d nofun
  unfold SparseMatrix.meetNewStart
  split
  · exact forall_mem_upsert hc (hnone _)
  · rename_i cells hg
    exact forall_mem_upsert hc (stackOK_append (getCells_ok hc hg) (hnone _))

theorem meetNewEnd_ok {m : SparseMatrix α} (name : String) (hc : CellsOK Q m.cells) :
    CellsOK Q (m.meetNewEnd name).1.cells := by
  unfold SparseMatrix.meetNewEnd
  split
  · exact hc
  · rename_i cells hg
    split <;> split
    · exact forall_mem_upsert hc (stackOK_dropLast (getCells_ok hc hg))
    · exact hc
    · split
      · exact fun e he => hc e (List.mem_filter.mp he).1
      · exact hc
    · exact hc

end sparse

def CanonOK (P : TP) (w : CanonStreamWP) : Prop := AllAgg P w.canonStream.values

/-- the key-value pairs of a canon map (everything a canon map hands out with a non-canon provenance is one of them) -/
def CanonMapOK (P : TP) (w : CanonStreamMapWP) : Prop := AllAgg P w.canonStreamMap.values

def IterOK (P : TP) : IterableValue → Prop
  | .resolvedCall v _ _ => AggP P v
  | .lambdaResult _ t p _ => P t p
  | .vec vals _ => AllAgg P vals

structure ScalarsOK (P : TP) (s : Scalars) : Prop where
  cells : CellsOK (AggP P) s.nonIterable.cells
  iters : ∀ e ∈ s.iterable, IterOK P e.2.iterable
  canons : CellsOK (CanonOK P) s.canonStreams.cells
  canonMaps : CellsOK (CanonMapOK P) s.canonMaps.cells

variable {P : TP}

theorem allAgg_mono {P Q : TP} (h : ∀ t p, P t p → Q t p) {l : List ValueAggregate} (hs : AllAgg P l) : AllAgg Q l :=
  fun v hv => h _ _ (hs v hv)

theorem iterOK_mono {P Q : TP} (h : ∀ t p, P t p → Q t p) {it : IterableValue} (hs : IterOK P it) : IterOK Q it := by
  cases it with
  | vec vs c => exact allAgg_mono h hs
  | _ => exact h _ _ hs

theorem scalarsOK_mono {P Q : TP} (h : ∀ t p, P t p → Q t p) {s : Scalars} (hs : ScalarsOK P s) : ScalarsOK Q s :=
  ⟨cellsOK_mono (fun _ hv => h _ _ hv) hs.cells, fun e he => iterOK_mono h (hs.iters e he),
   cellsOK_mono (fun _ hv => allAgg_mono h hv) hs.canons, cellsOK_mono (fun _ hv => allAgg_mono h hv) hs.canonMaps⟩

theorem iterOK_setCursor {it : IterableValue} (k : Nat) (h : IterOK P it) : IterOK P (it.setCursor k) := by
  cases it <;> exact h

theorem iterOK_next {it : IterableValue} (h : IterOK P it) : IterOK P it.next.2 := by
  unfold IterableValue.next
  split
  · exact iterOK_setCursor _ h
  · exact h

theorem iterOK_prev {it : IterableValue} (h : IterOK P it) : IterOK P it.prev.2 := by
  unfold IterableValue.prev
  split
  · exact iterOK_setCursor _ h
  · exact h

theorem peek_eq {it : IterableValue} {x : JVal} {t : Tetraplet} {pos : Nat} {p : Provenance}
    (hp : it.peek = .ok (some (x, t, pos, p))) :
    match it with
    | .resolvedCall v c _ => t = v.tetraplet.addLens s!".$.[{c}]" ∧ p = v.provenance
    | .lambdaResult _ t0 p0 c => t = t0.addLens s!".$.[{c}]" ∧ p = p0
    | .vec vals c => ∃ y, vals[c]? = some y ∧ t = y.tetraplet ∧ p = y.provenance := by
  cases it with
  | resolvedCall v c l =>
    simp only [IterableValue.peek] at hp
    split at hp
    · cases hp
    · split at hp
      · split at hp <;> cases hp
        exact ⟨rfl, rfl⟩
      · cases hp
  | lambdaResult vals t0 p0 c =>
    simp only [IterableValue.peek] at hp
    split at hp
    · cases hp
    · split at hp <;> cases hp
      exact ⟨rfl, rfl⟩
  | vec vals c =>
    simp only [IterableValue.peek] at hp
    split at hp
    · cases hp
    · split at hp <;> cases hp
      rename_i y hy
      exact ⟨y, hy, rfl, rfl⟩

theorem peek_ok (hP : LensClosed P) {it : IterableValue} {x : JVal} {t : Tetraplet} {pos : Nat} {p : Provenance}
    (h : IterOK P it) (hp : it.peek = .ok (some (x, t, pos, p))) : P t p := by
  have := peek_eq hp
  cases it with
  | vec vals c =>
    obtain ⟨y, hy, rfl, rfl⟩ := this
    exact h y (List.mem_of_getElem? hy)
  | _ =>
    obtain ⟨rfl, rfl⟩ := this
    exact hP.addLens _ _ _ h

theorem peekExpect_ok (hP : LensClosed P) {it : IterableValue} {x : JVal × Tetraplet × Nat × Provenance}
    (h : IterOK P it) (hp : it.peekExpect = .ok x) : P x.2.1 x.2.2.2 := by
  obtain ⟨o, hk, ho⟩ := Res.bind_eq_ok.mp hp
  cases o with
  | none => cases ho
  | some y => cases ho; exact peek_ok hP h hk

def RefOK (P : TP) : ScalarRef → Prop
  | .value v => AggP P v
  | .iterableValue f => IterOK P f.iterable

theorem scalars_getValue_ok {s : Scalars} {name : String} {r : ScalarRef} (hs : ScalarsOK P s)
    (h : s.getValue name = .ok r) : RefOK P r := by
  unfold Scalars.getValue at h
  simp only at h
  split at h <;> cases h
  · rename_i x hx _
    exact getValue_ok (Q := AggP P) hs.cells hx
  · rename_i e f hf
    exact hs.iters _ (List.mem_of_find?_eq_some hf)

theorem parts_ok (hP : LensClosed P) {r : ScalarRef} {v : JVal} {t : Tetraplet} {p : Provenance}
    (hr : RefOK P r) (h : r.parts = .ok (v, t, p)) : P t p := by
  cases r with
  | value va => cases h; exact hr
  | iterableValue f =>
    obtain ⟨y, hk, hy⟩ := Res.bind_eq_ok.mp h
    cases hy
    exact peekExpect_ok hP hr hk

theorem getIterable_ok {s : Scalars} {name : String} {f : FoldState} (hs : ScalarsOK P s)
    (h : s.getIterable name = .ok f) : IterOK P f.iterable := by
  unfold Scalars.getIterable at h
  split at h <;> cases h
  rename_i k f' hf
  exact hs.iters _ (List.mem_of_find?_eq_some hf)

theorem getCanonStream_ok {s : Scalars} {name : String} {w : CanonStreamWP} (hs : ScalarsOK P s)
    (h : s.getCanonStream name = .ok w) : CanonOK P w := by
  unfold Scalars.getCanonStream at h
  split at h <;> cases h
  rename_i v hv
  exact getValue_ok hs.canons hv

theorem getCanonMap_ok {s : Scalars} {name : String} {w : CanonStreamMapWP} (hs : ScalarsOK P s)
    (h : s.getCanonMap name = .ok w) : CanonMapOK P w := by
  unfold Scalars.getCanonMap at h
  split at h <;> cases h
  rename_i v hv
  exact getValue_ok hs.canonMaps hv

theorem setScalarValue_ok {s s' : Scalars} {name : String} {v : ValueAggregate} (hs : ScalarsOK P s) (hv : AggP P v)
    (h : s.setScalarValue name v = .ok s') : ScalarsOK P s' := by
  obtain ⟨⟨b, m⟩, hm, h⟩ := Res.bind_eq_ok.mp h
  cases h
  exact { hs with cells := setValue_ok hs.cells hv hm }

theorem setCanonValue_ok {s s' : Scalars} {name : String} {w : CanonStreamWP} (hs : ScalarsOK P s) (hv : CanonOK P w)
    (h : s.setCanonValue name w = .ok s') : ScalarsOK P s' := by
  obtain ⟨⟨b, m⟩, hm, h⟩ := Res.bind_eq_ok.mp h
  cases h
  exact { hs with canons := setValue_ok hs.canons hv hm }

theorem setCanonMapValue_ok {s s' : Scalars} {name : String} {w : CanonStreamMapWP} (hs : ScalarsOK P s) (hv : CanonMapOK P w)
    (h : s.setCanonMapValue name w = .ok s') : ScalarsOK P s' := by
  obtain ⟨⟨b, m⟩, hm, h⟩ := Res.bind_eq_ok.mp h
  cases h
  exact { hs with canonMaps := setValue_ok hs.canonMaps hv hm }

theorem setIterableState_ok {s : Scalars} (name : String) {f : FoldState} (hs : ScalarsOK P s) (hf : IterOK P f.iterable) :
    ScalarsOK P (s.setIterableState name f) := by
  refine { hs with iters := fun e he => ?_ }
  obtain ⟨⟨k0, g0⟩, he0, rfl⟩ := List.mem_map.mp he
  simp only
  split
  · exact hf
  · exact hs.iters _ he0

theorem setIterableValue_ok {s s' : Scalars} {name : String} {f : FoldState} (hs : ScalarsOK P s) (hf : IterOK P f.iterable)
    (h : s.setIterableValue name f = .ok s') : ScalarsOK P s' := by
  unfold Scalars.setIterableValue at h
  split at h <;> cases h
  refine { hs with iters := fun e he => ?_ }
  rcases List.mem_append.mp he with h1 | h1
  · exact hs.iters e h1
  · rw [List.mem_singleton.mp h1]; exact hf

theorem removeIterableValue_ok {s : Scalars} (name : String) (hs : ScalarsOK P s) :
    ScalarsOK P (s.removeIterableValue name) :=
  { hs with iters := fun e he => hs.iters e (List.mem_filter.mp he).1 }

theorem s_meetFoldStart_ok {s : Scalars} (hs : ScalarsOK P s) : ScalarsOK P s.meetFoldStart := ⟨hs.cells, hs.iters, hs.canons, hs.canonMaps⟩
theorem s_meetNextBefore_ok {s : Scalars} (hs : ScalarsOK P s) : ScalarsOK P s.meetNextBefore := ⟨hs.cells, hs.iters, hs.canons, hs.canonMaps⟩

theorem s_meetNextAfter_ok {s s' : Scalars} (hs : ScalarsOK P s) (h : s.meetNextAfter = .ok s') : ScalarsOK P s' := by
  obtain ⟨m, hm, h⟩ := Res.bind_eq_ok.mp h
  obtain ⟨m2, hm2, h⟩ := Res.bind_eq_ok.mp h
  obtain ⟨m3, hm3, h⟩ := Res.bind_eq_ok.mp h
  cases h
  exact ⟨meetNextAfter_ok hs.cells hm, hs.iters, meetNextAfter_ok hs.canons hm2, meetNextAfter_ok hs.canonMaps hm3⟩

theorem s_meetFoldEnd_ok {s s' : Scalars} (hs : ScalarsOK P s) (h : s.meetFoldEnd = .ok s') : ScalarsOK P s' := by
  obtain ⟨m, hm, h⟩ := Res.bind_eq_ok.mp h
  obtain ⟨m2, hm2, h⟩ := Res.bind_eq_ok.mp h
  obtain ⟨m3, hm3, h⟩ := Res.bind_eq_ok.mp h
  cases h
  exact ⟨meetFoldEnd_ok hs.cells hm, hs.iters, meetFoldEnd_ok hs.canons hm2, meetFoldEnd_ok hs.canonMaps hm3⟩

end AquaProps
