import Aqua.Json.Parse
/-! Decimal printing (`toString : Int → String`, = `itoa`) and the integer path of the number lexer. -/
namespace AquaProps.JsonLemmas
open Aqua.Json

theorem overflowMul_iff (a b c : Nat) (hb : b < 10) : overflowMul a b c = true ↔ a * 10 + b > c := by
  unfold overflowMul
  simp only [Bool.and_eq_true, Bool.or_eq_true, decide_eq_true_eq]
  omega

theorem isDigit_iff (c : Char) : isDigit c = true ↔ 48 ≤ c.toNat ∧ c.toNat ≤ 57 := by
  unfold isDigit; simp

theorem isDigit_ne {c d : Char} (h : isDigit c = true) (hd : isDigit d = false) : c ≠ d :=
  fun hc => by rw [hc, hd] at h; cases h

theorem digitVal_lt (c : Char) (h : isDigit c = true) : digitVal c < 10 := by
  rw [isDigit_iff] at h; unfold digitVal; omega

def digitsToNat (acc : Nat) (ds : List Char) : Nat := ds.foldl (fun a c => a * 10 + digitVal c) acc

theorem digitsToNat_cons (acc : Nat) (c : Char) (ds : List Char) :
    digitsToNat acc (c :: ds) = digitsToNat (acc * 10 + digitVal c) ds := by
  unfold digitsToNat; rw [List.foldl_cons]

theorem le_digitsToNat (acc : Nat) (ds : List Char) : acc ≤ digitsToNat acc ds := by
  induction ds generalizing acc with
  | nil => exact Nat.le_refl _
  | cons c cs ih => rw [digitsToNat_cons]; have := ih (acc * 10 + digitVal c); omega

theorem isDigit_eq (c : Char) : isDigit c = c.isDigit := by
  unfold isDigit Char.isDigit
  simp only [ge_iff_le, UInt32.le_iff_toNat_le]
  rfl

theorem digitsToNat_eq (acc : Nat) (ds : List Char) : digitsToNat acc ds = Nat.ofDigitChars 10 ds acc := by
  unfold digitsToNat Nat.ofDigitChars
  exact congrArg (fun f => List.foldl f acc ds) (funext fun a => funext fun c => congrArg (· + digitVal c) (Nat.mul_comm a 10))

theorem toDigits_spec (n : Nat) :
    (∀ c ∈ Nat.toDigits 10 n, isDigit c = true) ∧ digitsToNat 0 (Nat.toDigits 10 n) = n ∧
    (0 < n → ∀ d ds, Nat.toDigits 10 n = d :: ds → d ≠ '0') := by
  refine ⟨fun c hc => (isDigit_eq c).trans (Nat.isDigit_of_mem_toDigits (by decide) (by decide) hc),
    (digitsToNat_eq _ _).trans Nat.ofDigitChars_ten_toDigits, ?_⟩
  -- the leading digit of a positive number
  induction n using Nat.strongRecOn with
  | _ n ih =>
    intro hpos d ds heq
    rw [Nat.toDigits_eq_if (by decide)] at heq
    by_cases h : n < 10
    · simp only [h, if_true] at heq; simp at heq; rw [← heq.1]; simp; omega
    · simp only [h, if_false] at heq
      cases hq : Nat.toDigits 10 (n / 10) with
      | nil => exact absurd hq Nat.toDigits_ne_nil
      | cons d' ds' =>
        rw [hq] at heq; simp at heq
        rw [← heq.1]; exact ih (n / 10) (by omega) (by omega) d' ds' hq

def numEnd : List Char → Bool
  | [] => true
  | c :: _ => !isDigit c && c != '.' && c != 'e' && c != 'E'

theorem intLoop_digits (fo : FloatOracle) (positive : Bool) (ds : List Char) (acc : Nat) (rest : List Char)
    (hd : ∀ c ∈ ds, isDigit c = true) (hle : digitsToNat acc ds ≤ u64Max) (hr : numEnd rest = true) :
    intLoop fo positive acc (ds ++ rest) = parseNumber fo positive (digitsToNat acc ds) rest := by
  induction ds generalizing acc with
  | nil =>
    simp only [List.nil_append, digitsToNat, List.foldl_nil]
    cases rest with
    | nil => rfl
    | cons c r =>
      simp only [numEnd, Bool.and_eq_true, Bool.not_eq_true'] at hr
      simp only [intLoop, hr.1.1.1]; rfl
  | cons c cs ih =>
    have hc : isDigit c = true := hd c (by simp)
    have hlt := digitVal_lt c hc
    rw [digitsToNat_cons] at hle ⊢
    have hno : overflowMul acc (digitVal c) u64Max = false := Bool.eq_false_iff.mpr fun ho => by
      have := (overflowMul_iff _ _ _ hlt).mp ho
      have := le_digitsToNat (acc * 10 + digitVal c) cs
      omega
    simp only [List.cons_append, intLoop, hc, hno, if_true]
    exact ih (acc * 10 + digitVal c) (fun c' hc' => hd c' (by simp [hc'])) hle

theorem parseNumber_int_pos (fo : FloatOracle) (n : Nat) (rest : List Char) (hr : numEnd rest = true) :
    parseNumber fo true n rest = .ok (.num n, rest) := by
  cases rest with
  | nil => rfl
  | cons c r =>
    simp only [numEnd, Bool.and_eq_true, Bool.not_eq_true', bne_iff_ne, ne_eq] at hr
    simp [parseNumber, hr.1.1.2, hr.1.2, hr.2]

/-- `(significand as i64).wrapping_neg()` without the detour through `i64` -/
theorem wrappingNegAsI64_eq (s : Nat) :
    wrappingNegAsI64 s = if s ≤ 9223372036854775808 then -(s : Int) else 18446744073709551616 - s := by
  unfold wrappingNegAsI64 i64MinAbs
  by_cases h : s < 9223372036854775808
  · simp only [h, if_true]; rw [if_neg (by omega), if_pos (by omega)]
  · simp only [h, if_false]
    by_cases h2 : s = 9223372036854775808
    · subst h2; decide
    · rw [if_neg (by omega), if_neg (by omega)]; omega

theorem parseNumber_int_neg (fo : FloatOracle) (n : Nat) (rest : List Char) (h1 : 1 ≤ n) (h2 : n ≤ 9223372036854775808)
    (hr : numEnd rest = true) : parseNumber fo false n rest = .ok (.num (-(n : Int)), rest) := by
  have e : wrappingNegAsI64 n = -(n : Int) := by rw [wrappingNegAsI64_eq, if_pos h2]
  have hn0 : n ≠ 0 := by omega
  cases rest with
  | nil => simp [parseNumber, e, hn0]
  | cons c r =>
    simp only [numEnd, Bool.and_eq_true, Bool.not_eq_true', bne_iff_ne, ne_eq] at hr
    simp [parseNumber, e, hn0, hr.1.1.2, hr.1.2, hr.2]

theorem parseInteger_toDigits (fo : FloatOracle) (positive : Bool) (n : Nat) (rest : List Char)
    (hn : n ≤ u64Max) (hr : numEnd rest = true) :
    parseInteger fo positive (Nat.toDigits 10 n ++ rest) = parseNumber fo positive n rest := by
  obtain ⟨hd, hv, hz⟩ := toDigits_spec n
  cases hq : Nat.toDigits 10 n with
  | nil => exact absurd hq Nat.toDigits_ne_nil
  | cons d ds =>
    rw [hq] at hd hv
    have hdd : isDigit d = true := hd d (by simp)
    by_cases h0 : d = '0'
    · have hn0 : n = 0 := by
        by_cases hp : 0 < n
        · exact absurd h0 (hz hp d ds hq)
        · omega
      subst hn0
      rw [Nat.toDigits_zero] at hq
      simp at hq
      obtain ⟨rfl, rfl⟩ := hq
      cases rest with
      | nil => rfl
      | cons c r =>
        simp only [numEnd, Bool.and_eq_true, Bool.not_eq_true'] at hr
        simp [parseInteger, hr.1.1.1]
    · simp only [List.cons_append, parseInteger, h0, if_false, hdd, if_true]
      rw [digitsToNat_cons] at hv
      simp only [Nat.zero_mul, Nat.zero_add] at hv
      rw [intLoop_digits fo positive ds (digitVal d) rest (fun c hc => hd c (by simp [hc])) (by omega) hr, hv]

/-- the bounds are the range of the integers a `JValue` can hold (`i64` ∪ `u64`) -/
theorem parseNumTok_toString (fo : FloatOracle) (i : Int) (rest : List Char)
    (hlo : -9223372036854775808 ≤ i) (hhi : i ≤ 18446744073709551615) (hr : numEnd rest = true) :
    parseNumTok fo ((toString i).toList ++ rest) = .ok (.num i, rest) := by
  cases i with
  | ofNat n =>
    show parseNumTok fo ((Nat.repr n).toList ++ rest) = _
    rw [Nat.toList_repr]
    obtain ⟨hd, _, _⟩ := toDigits_spec n
    cases hq : Nat.toDigits 10 n with
    | nil => exact absurd hq Nat.toDigits_ne_nil
    | cons d ds =>
      have hdd : isDigit d = true := hd d (by simp [hq])
      simp only [List.cons_append, parseNumTok, (isDigit_ne hdd rfl : d ≠ '-'), if_false, hdd, if_true]
      rw [← List.cons_append, ← hq, parseInteger_toDigits fo true _ rest (Int.ofNat_le.mp hhi) hr]
      exact parseNumber_int_pos fo _ rest hr
  | negSucc n =>
    show parseNumTok fo (("-" ++ Nat.repr (n + 1)).toList ++ rest) = _
    rw [String.toList_append, Nat.toList_repr]
    show parseInteger fo false (Nat.toDigits 10 (n + 1) ++ rest) = _
    rw [parseInteger_toDigits fo false _ rest (by unfold u64Max; omega) hr]
    exact parseNumber_int_neg fo _ rest (by omega) (by omega) hr

end AquaProps.JsonLemmas
