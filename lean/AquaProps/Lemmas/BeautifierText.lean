import Aqua.Air.Unbeautify
/-! Text-level lemmas for C28: words, tokens, the `call` line reader, line classification. -/
namespace AquaProps.Lemmas.BeautifierText
open Aqua.Air Aqua.Air.Beautifier Aqua.Air.Unbeautify

theorem firstWord_append_space (kw rest : Text) (h : ∀ c ∈ kw, c ≠ ' ') :
    firstWord (kw ++ ' ' :: rest) = kw := by
  unfold firstWord
  rw [List.takeWhile_append_of_pos (by simpa using h)]
  simp

theorem afterFirstWord_append_space (kw rest : Text) (h : ∀ c ∈ kw, c ≠ ' ') :
    afterFirstWord (kw ++ ' ' :: rest) = rest := by
  unfold afterFirstWord
  rw [List.dropWhile_append_of_pos (by simpa using h)]
  simp

/-- the first character after a token is a delimiter (or the text ends) -/
def delimited (rest : Text) : Prop := rest = [] ∨ ∃ c r, rest = c :: r ∧ isTokChar c = false

theorem tokWF_cases (t : Text) (h : tokWF t = true) :
    (∃ body, t = '"' :: body ++ ['"'] ∧ ∀ c ∈ body, c ≠ '"') ∨
    (t ≠ [] ∧ (∀ c ∈ t, isTokChar c = true)) := by
  unfold tokWF at h
  split at h
  · rename_i rest
    left
    split at h
    · rename_i hl
      obtain ⟨ys, rfl⟩ := List.getLast?_eq_some_iff.mp hl
      refine ⟨ys, by simp, ?_⟩
      intro c hc hcq
      subst hcq
      simp at h
      exact h hc
    · simp at h
  · right
    simp at h
    refine ⟨?_, ?_⟩
    · intro h0; simp [h0] at h
    · intro c hc; exact h.2 c hc

theorem readTok_append (t rest : Text) (h : tokWF t = true) (hd : delimited rest) :
    readTok (t ++ rest) = some (t, rest) := by
  rcases tokWF_cases t h with ⟨body, rfl, hb⟩ | ⟨hne, hall⟩
  · have h1 : ∀ x ∈ body, (x != '"') = true := by intro x hx; simpa using hb x hx
    simp only [List.cons_append, List.append_assoc, readTok]
    rw [List.dropWhile_append_of_pos h1, List.takeWhile_append_of_pos h1]
    simp
  · cases t with
    | nil => exact absurd rfl hne
    | cons a t' =>
      have ha : isTokChar a = true := hall a (by simp)
      have haq : a ≠ '"' := by intro h0; subst h0; simp [isTokChar] at ha
      have : readTok ((a :: t') ++ rest) =
          (let tok := ((a :: t') ++ rest).takeWhile isTokChar
           if tok.isEmpty then none else some (tok, ((a :: t') ++ rest).dropWhile isTokChar)) := by
        simp only [List.cons_append]
        unfold readTok
        split
        · rename_i heq; simp at heq; exact absurd heq.1 haq
        · rfl
      rw [this]
      rw [List.takeWhile_append_of_pos hall, List.dropWhile_append_of_pos hall]
      rcases hd with rfl | ⟨c, r, rfl, hc⟩
      · simp
      · simp [hc]

theorem tokWF_ne_nil (t : Text) (h : tokWF t = true) : t ≠ [] := by
  rcases tokWF_cases t h with ⟨body, rfl, _⟩ | ⟨hne, _⟩
  · simp
  · exact hne

theorem joinText_ne_nil (sep : Text) (a : Text) (as : List Text) (h : a ≠ []) : joinText sep (a :: as) ≠ [] := by
  cases as with
  | nil => simpa [joinText] using h
  | cons b bs => simp [joinText, h]

theorem expect_append (pre t : Text) : expect pre (pre ++ t) = some t := by
  simp [expect]

theorem joinText_cons_cons (sep a b : Text) (bs : List Text) :
    joinText sep (a :: b :: bs) = a ++ (sep ++ joinText sep (b :: bs)) := by simp [joinText]

theorem readArgs_join (args : List Text) (h : ∀ a ∈ args, tokWF a = true) :
    ∀ f, args.length + 1 ≤ f → readArgs f (joinText ", ".toList args) = some args := by
  induction args with
  | nil => intro f hf; obtain ⟨f, rfl⟩ : ∃ f', f = f' + 1 := ⟨f - 1, by omega⟩; rfl
  | cons a as ih =>
    intro f hf
    obtain ⟨f, rfl⟩ : ∃ f', f = f' + 1 := ⟨f - 1, by omega⟩
    have ha := h a (by simp)
    cases as with
    | nil =>
      have hr := readTok_append a [] ha (Or.inl rfl)
      rw [List.append_nil] at hr
      rw [show joinText ", ".toList [a] = a from rfl, readArgs.eq_3 _ _ (tokWF_ne_nil a ha), hr]
      rfl
    | cons b bs =>
      have hJ := joinText_ne_nil ", ".toList b bs (tokWF_ne_nil b (h b (by simp)))
      have ih' := ih (fun x hx => h x (by simp [hx])) f (by simp at hf ⊢; omega)
      rw [joinText_cons_cons, readArgs.eq_3 _ _ (by simp [tokWF_ne_nil a ha]),
        readTok_append a _ ha (Or.inr ⟨',', ' ' :: joinText ", ".toList (b :: bs), by simp, by decide⟩)]
      cases hj : joinText ", ".toList (b :: bs) with
      | nil => exact absurd hj hJ
      | cons x xs =>
        rw [hj] at ih'
        have he : expect [',', ' '] (',' :: ' ' :: x :: xs) = some (x :: xs) := expect_append [',', ' '] _
        simp only [Option.bind_some, String.reduceToList, List.cons_append, List.nil_append, he, ih', Option.map_some]

theorem length_le_joinText (sep : Text) (args : List Text) (h : ∀ a ∈ args, a ≠ []) :
    args.length ≤ (joinText sep args).length := by
  induction args with
  | nil => simp [joinText]
  | cons a as ih =>
    have ha : 1 ≤ a.length := by
      have := h a (by simp)
      cases a with
      | nil => exact absurd rfl this
      | cons _ _ => simp
    cases as with
    | nil => simpa [joinText] using ha
    | cons b bs =>
      have := ih (fun x hx => h x (by simp [hx]))
      simp only [joinText, List.length_append, List.length_cons] at this ⊢
      omega

/-- the `call` part of a line, as the output language has it -/
def callCore (p s f : Text) (args : List Text) : Text :=
  "call".toList ++ ' ' :: (p ++ (" (".toList ++ (s ++ (", ".toList ++ (f ++ (") [".toList ++ (joinText ", ".toList args ++ [']'])))))))

theorem readCallRest_callCore (p s f : Text) (args : List Text)
    (hp : tokWF p = true) (hs : tokWF s = true) (hf : tokWF f = true) (ha : ∀ a ∈ args, tokWF a = true) :
    readCallRest (callCore p s f args) = some (p, s, f, args) := by
  have : callCore p s f args = "call ".toList ++ (p ++ (" (".toList ++ (s ++ (", ".toList ++ (f ++ (") [".toList ++
      (joinText ", ".toList args ++ [']']))))))) := by
    simp only [callCore, String.reduceToList, List.cons_append, List.nil_append]
  rw [this, readCallRest, expect_append]
  simp only [Option.bind_some]
  rw [readTok_append p _ hp (by exact Or.inr ⟨' ', _, rfl, by decide⟩)]
  simp only [Option.bind_some]
  rw [expect_append]
  simp only [Option.bind_some]
  rw [readTok_append s _ hs (by exact Or.inr ⟨',', _, rfl, by decide⟩)]
  simp only [Option.bind_some]
  rw [expect_append]
  simp only [Option.bind_some]
  rw [readTok_append f _ hf (by exact Or.inr ⟨')', _, rfl, by decide⟩)]
  simp only [Option.bind_some]
  rw [expect_append]
  simp only [Option.bind_some, List.getLast?_concat, List.dropLast_concat]
  rw [readArgs_join args ha]
  · simp
  · have := length_le_joinText ", ".toList args (fun a h => tokWF_ne_nil a (ha a h))
    simp only [List.length_append, List.length_cons, List.length_nil]
    omega

/-- the lines `classify` knows as a whole; every other line goes by its first words -/
def layoutLines : List Text := ["par:".toList, "try:".toList, "|".toList, "catch:".toList, "last:".toList]

theorem classify_of_not_layout (t : Text) (h : t ∉ layoutLines) :
    classify t =
      if firstWord t ∈ kwSimple then .simple
      else if firstWord t ∈ kwBlock then .block
      else if firstWord t = "call".toList then .call
      else if secondWord t = "<-".toList then .callOut
      else .unknown := by
  simp only [layoutLines, List.mem_cons, List.not_mem_nil, or_false, not_or] at h
  simp only [classify, h, if_false, or_self]

theorem not_layout_of_space (t : Text) (h : ' ' ∈ t) : t ∉ layoutLines :=
  fun hm => (by decide +kernel : ∀ s ∈ layoutLines, ' ' ∉ s) t hm h

/-- The hypothesis is meant to be evaluated; turning the string literals into character lists first makes that several
times cheaper than `rfl` alone. -/
theorem classify_simple (t : Text)
    (h : kwSimple.contains (firstWord t) = true := by
      dsimp only [instrText, failText, hopOnText, kwSimple, String.reduceToList, List.cons_append, List.nil_append]; rfl) :
    classify t = .simple := by
  have h := List.contains_iff_mem.mp h
  rw [classify_of_not_layout t fun hm => (by decide +kernel : ∀ s ∈ layoutLines, firstWord s ∉ kwSimple) t hm h, if_pos h]

theorem classify_block (t : Text)
    (h : kwBlock.contains (firstWord t) = true := by
      dsimp only [instrText, kwBlock, String.reduceToList, List.cons_append, List.nil_append]; rfl) :
    classify t = .block := by
  have h := List.contains_iff_mem.mp h
  rw [classify_of_not_layout t fun hm => (by decide +kernel : ∀ s ∈ layoutLines, firstWord s ∉ kwBlock) t hm h,
    if_neg ((by decide +kernel : ∀ kw ∈ kwBlock, kw ∉ kwSimple) _ h), if_pos h]

theorem classify_callCore (p s f : Text) (args : List Text) : classify (callCore p s f args) = .call := by
  rw [callCore, classify_of_not_layout _ (not_layout_of_space _ (by simp)), firstWord_append_space _ _ (by decide +kernel)]
  have h1 : "call".toList ∉ kwSimple := by decide +kernel
  have h2 : "call".toList ∉ kwBlock := by decide +kernel
  simp only [h1, h2, if_false, if_true]

theorem outWF_cases (n : Text) (h : outWF n = true) :
    n ≠ [] ∧ (∀ c ∈ n, c ≠ ' ') ∧ n ∉ reserved := by
  unfold outWF at h
  simp at h
  refine ⟨?_, ?_, ?_⟩
  · intro e; simp [e] at h
  · intro c hc; exact h.1.2 c hc
  · exact h.2

theorem classify_callOut (n rest : Text) (h : outWF n = true) :
    classify (n ++ ' ' :: '<' :: '-' :: ' ' :: rest) = .callOut := by
  obtain ⟨_, hsp, hres⟩ := outWF_cases n h
  have hs : n ∉ kwSimple := by intro hm; exact hres (by simp [reserved, hm])
  have hb : n ∉ kwBlock := by intro hm; exact hres (by simp [reserved, hm])
  have hc : n ≠ "call".toList := by intro hm; exact hres (by simp [reserved, hm])
  rw [classify_of_not_layout _ (not_layout_of_space _ (by simp)), firstWord_append_space _ _ hsp]
  have h2 : secondWord (n ++ ' ' :: '<' :: '-' :: ' ' :: rest) = "<-".toList := by
    unfold secondWord
    rw [afterFirstWord_append_space _ _ hsp]
    exact firstWord_append_space ['<', '-'] rest (by decide)
  simp only [hs, hb, hc, h2, if_false, if_true]

theorem stripColon_concat (h : Text) : stripColon (h ++ [':']) = some h := by
  simp [stripColon]

end AquaProps.Lemmas.BeautifierText
