import AquaProps.Lemmas.JsonNum
/-! One round of the value parser as a case analysis, and what the lexers return.

`Sat Q r`: the result `r` is not the out-of-fuel artefact, and if it is a success it satisfies `Q`.  `Sat`
is closed under the way the model sequences parsers (`andThen`, `expect`), so a statement about every
result of the parser is proved by going through the forms one round can take: those are listed, once, by
`parseValue_succ_cases`, `parseElems_succ_cases` and `parseMembers_succ_cases`.  The lexers are dealt with
here: the number lexer returns an integer a `JValue` can hold or a float text of the oracle and leaves a
suffix of its input; a string literal consumes at least its closing quote. -/
namespace AquaProps.JsonLemmas
open Aqua.Json
open Aqua (ite_ind)

/-- sequencing as the model writes it out -/
def andThen {α β : Type} (x : PRes α) (k : α → List Char → PRes β) : PRes β :=
  match x with
  | .error e => .error e
  | .ok (v, r) => k v r

/-- `parse_ident`: the remaining letters `es` of a literal, then its value -/
def litTok (es : List Char) (v : JVal) (r : List Char) : PRes JVal :=
  match parseIdent es r with
  | some r' => .ok (v, r')
  | none => .error .syntax

/-- whitespace, then the character `ch` (`end_seq`, `end_map`, `parse_object_colon`), then `k` -/
def expect {β : Type} (ch : Char) (r : List Char) (k : List Char → PRes β) : PRes β :=
  match skipWs r with
  | [] => .error .syntax
  | c :: r' => if c = ch then k r' else .error .syntax

theorem parseValue_succ_eof (fo : FloatOracle) (f depth : Nat) {cs : List Char} (h : skipWs cs = []) :
    parseValue fo (f + 1) depth cs = .error .syntax := by
  rw [parseValue, h]

/-- `deserialize_any` dispatches on the first character after the whitespace.  `split` on the unfolded
definition costs time exponential in the length of the `else if` chain; this equation is proved branch
by branch instead. -/
theorem parseValue_succ (fo : FloatOracle) (f depth : Nat) {cs : List Char} {c : Char} {r : List Char}
    (h : skipWs cs = c :: r) :
    parseValue fo (f + 1) depth cs =
      if c = 'n' then litTok ['u', 'l', 'l'] .null r
      else if c = 't' then litTok ['r', 'u', 'e'] (.bool true) r
      else if c = 'f' then litTok ['a', 'l', 's', 'e'] (.bool false) r
      else if c = '-' || isDigit c then parseNumTok fo (c :: r)
      else if c = '"' then andThen (parseStr r) fun s r' => .ok (.str s, r')
      else if c = '[' then
        if depth ≤ 1 then .error .recursionLimit
        else andThen (parseElems fo f (depth - 1) true r) fun vs r' => expect ']' r' fun r'' => .ok (.arr vs, r'')
      else if c = '{' then
        if depth ≤ 1 then .error .recursionLimit
        else andThen (parseMembers fo f (depth - 1) true r) fun kvs r' => expect '}' r' fun r'' => .ok (JVal.mkObj kvs, r'')
      else .error .syntax := by
  rw [parseValue, h]
  refine ite_congr rfl (fun _ => ?_) fun _ => ite_congr rfl (fun _ => ?_) fun _ => ite_congr rfl (fun _ => ?_) fun _ =>
    ite_congr rfl (fun _ => rfl) fun _ => ite_congr rfl (fun _ => ?_) fun _ =>
    ite_congr rfl (fun _ => ite_congr rfl (fun _ => rfl) fun _ => ?_) fun _ =>
    ite_congr rfl (fun _ => ite_congr rfl (fun _ => rfl) fun _ => ?_) fun _ => rfl
  · unfold litTok; cases parseIdent _ r <;> rfl
  · unfold litTok; cases parseIdent _ r <;> rfl
  · unfold litTok; cases parseIdent _ r <;> rfl
  · rcases parseStr r with e | ⟨s, r'⟩ <;> rfl
  · rcases parseElems fo f (depth - 1) true r with e | ⟨vs, r'⟩
    · rfl
    · dsimp only [andThen, expect]; cases skipWs r' <;> rfl
  · rcases parseMembers fo f (depth - 1) true r with e | ⟨kvs, r'⟩
    · rfl
    · dsimp only [andThen, expect]; cases skipWs r' <;> rfl

theorem parseValue_succ_cases {P : PRes JVal → Prop} (fo : FloatOracle) (f depth : Nat) {cs : List Char} {c : Char}
    {r : List Char} (h : skipWs cs = c :: r) (syn : P (.error .syntax)) (lim : P (.error .recursionLimit))
    (null : ∀ es, P (litTok es .null r)) (bool : ∀ es b, P (litTok es (.bool b) r))
    (num : P (parseNumTok fo (c :: r)))
    (str : P (andThen (parseStr r) fun s r' => .ok (.str s, r')))
    (arr : 1 < depth →
      P (andThen (parseElems fo f (depth - 1) true r) fun vs r' => expect ']' r' fun r'' => .ok (.arr vs, r'')))
    (obj : 1 < depth →
      P (andThen (parseMembers fo f (depth - 1) true r) fun kvs r' => expect '}' r' fun r'' => .ok (JVal.mkObj kvs, r''))) :
    P (parseValue fo (f + 1) depth cs) := by
  rw [parseValue_succ fo f depth h]
  exact ite_ind (fun _ => null _) fun _ => ite_ind (fun _ => bool _ _) fun _ => ite_ind (fun _ => bool _ _) fun _ =>
    ite_ind (fun _ => num) fun _ => ite_ind (fun _ => str) fun _ =>
    ite_ind (fun _ => ite_ind (fun _ => lim) fun _ => arr (by omega)) fun _ =>
    ite_ind (fun _ => ite_ind (fun _ => lim) fun _ => obj (by omega)) fun _ => syn

theorem skipWs_length (cs : List Char) : (skipWs cs).length ≤ cs.length := by
  fun_induction skipWs cs <;> simp only [List.length_cons, List.length_nil] <;> omega

theorem skipWs_cons_length {cs : List Char} {c : Char} {r : List Char} (h : skipWs cs = c :: r) :
    r.length + 1 ≤ cs.length := by
  have := skipWs_length cs; rw [h] at this; simpa using this

/-- the hypothesis is the `start` of the model: the input on which the next element or member starts -/
theorem start_length {c : Char} {first : Bool} {rest s : List Char}
    (h : (if (decide (c = ',') && !first) = true then some (skipWs rest) else if first = true then some (c :: rest) else none)
      = some s) : s.length ≤ rest.length + 1 := by
  split at h
  · cases h; have := skipWs_length rest; omega
  · split at h
    · cases h; simp
    · cases h

/-- `visit_seq` -/
theorem parseElems_succ_cases {P : PRes (List JVal) → Prop} (fo : FloatOracle) (f depth : Nat) (first : Bool)
    (cs : List Char) (syn : P (.error .syntax)) (done : ∀ rest, rest.length ≤ cs.length → P (.ok ([], rest)))
    (item : ∀ s, s.length ≤ cs.length →
      P (andThen (parseValue fo f depth s) fun v r => andThen (parseElems fo f depth false r) fun vs r' => .ok (v :: vs, r'))) :
    P (parseElems fo (f + 1) depth first cs) := by
  rw [parseElems]
  split
  · exact syn
  · rename_i c rest hsk
    have hr := skipWs_cons_length hsk
    refine ite_ind (fun _ => done _ (by simp only [List.length_cons]; omega)) fun _ => ?_
    simp only
    split
    · exact syn
    · exact syn
    · rename_i c' rest' hst
      have hl := start_length hst
      refine ite_ind (fun _ => syn) fun _ => (congrArg P ?_).mpr (item (c' :: rest') (by omega))
      rcases parseValue fo f depth (c' :: rest') with e | ⟨v, r⟩
      · rfl
      · dsimp only [andThen]; rcases parseElems fo f depth false r with e | ⟨vs, r'⟩ <;> rfl

/-- `visit_map` -/
theorem parseMembers_succ_cases {P : PRes (List (String × JVal)) → Prop} (fo : FloatOracle) (f depth : Nat)
    (first : Bool) (cs : List Char) (syn : P (.error .syntax))
    (done : ∀ rest, rest.length ≤ cs.length → P (.ok ([], rest)))
    (item : ∀ s, s.length < cs.length →
      P (andThen (parseStr s) fun k r => expect ':' r fun r' => andThen (parseValue fo f depth r') fun v r'' =>
        andThen (parseMembers fo f depth false r'') fun kvs r''' => .ok ((k, v) :: kvs, r'''))) :
    P (parseMembers fo (f + 1) depth first cs) := by
  rw [parseMembers]
  split
  · exact syn
  · rename_i c rest hsk
    have hr := skipWs_cons_length hsk
    refine ite_ind (fun _ => done _ (by simp only [List.length_cons]; omega)) fun _ => ?_
    simp only
    split
    · exact syn
    · exact syn
    · rename_i c' rest' hst
      have hl := start_length hst
      refine ite_ind (fun _ => ?_) fun _ => syn
      refine (congrArg P ?_).mpr (item rest' (by simp only [List.length_cons] at hl; omega))
      rcases parseStr rest' with e | ⟨k, r⟩
      · rfl
      · dsimp only [andThen, expect]
        rcases skipWs r with _ | ⟨c'', r'⟩
        · rfl
        · refine ite_congr rfl (fun _ => ?_) fun _ => rfl
          rcases parseValue fo f depth r' with e | ⟨v, r''⟩
          · rfl
          · dsimp only; rcases parseMembers fo f depth false r'' with e | ⟨kvs, r3⟩ <;> rfl

def Sat {α : Type} (Q : α → List Char → Prop) (r : PRes α) : Prop :=
  r ≠ .error .fuel ∧ ∀ v rest, r = .ok (v, rest) → Q v rest

section
variable {α β : Type} {Q : α → List Char → Prop} {Q' : β → List Char → Prop}

theorem sat_error {e : PErr} (h : e ≠ .fuel) : Sat Q (.error e) :=
  ⟨fun hc => h (Except.error.inj hc), fun _ _ hc => nomatch hc⟩

theorem sat_syntax : Sat Q (.error .syntax) := sat_error (by decide)

theorem sat_ok {v : α} {rest : List Char} (h : Q v rest) : Sat Q (.ok (v, rest)) :=
  ⟨nofun, fun _ _ hc => by cases hc; exact h⟩

theorem Sat.mono {Q₂ : α → List Char → Prop} {r : PRes α} (h : Sat Q r) (hq : ∀ v rest, Q v rest → Q₂ v rest) :
    Sat Q₂ r :=
  ⟨h.1, fun v rest hr => hq v rest (h.2 v rest hr)⟩

theorem Sat.andThen {x : PRes α} {k : α → List Char → PRes β} (hx : Sat Q x) (hk : ∀ v r, Q v r → Sat Q' (k v r)) :
    Sat Q' (andThen x k) := by
  rcases x with e | ⟨v, r⟩
  · exact sat_error fun he => hx.1 (he ▸ rfl)
  · exact hk v r (hx.2 v r rfl)

theorem sat_expect {ch : Char} {r : List Char} {k : List Char → PRes β}
    (hk : ∀ r', r'.length < r.length → Sat Q' (k r')) : Sat Q' (expect ch r k) := by
  fun_cases expect ch r k
  · exact sat_syntax
  · exact hk _ (skipWs_cons_length ‹_›)
  · exact sat_syntax
end

theorem parseIdent_length {es cs r : List Char} (h : parseIdent es cs = some r) : r.length ≤ cs.length := by
  fun_induction parseIdent es cs with
  | case1 cs => cases h; exact Nat.le_refl _
  | case3 c es cs ih => exact Nat.le_succ_of_le (ih h)
  | case2 | case4 => cases h

theorem sat_litTok (es : List Char) (v : JVal) (r : List Char) :
    Sat (fun v' rest => v' = v ∧ rest.length ≤ r.length) (litTok es v r) := by
  unfold litTok
  split
  · exact sat_ok ⟨rfl, parseIdent_length ‹_›⟩
  · exact sat_syntax

theorem consChar_eq (c : Char) (r : PRes (List Char)) : consChar c r = andThen r fun s rest => .ok (c :: s, rest) := by
  rcases r with e | ⟨s, rest⟩ <;> rfl

theorem sat_strChars (cs : List Char) : Sat (fun _ rest => rest.length < cs.length) (parseStrChars cs) := by
  fun_induction parseStrChars cs with
  | case1 => exact sat_syntax
  | case2 cs => exact sat_ok (by simp)
  | case3 => exact sat_syntax
  | case4 cs ch rest hesc _ ih =>
    rw [consChar_eq]
    have := parseEscape_length hesc
    exact ih.andThen fun _ _ h => sat_ok (by simp only [List.length_cons]; omega)
  | case5 => exact sat_syntax
  | case6 c cs _ _ _ ih =>
    rw [consChar_eq]
    exact ih.andThen fun _ _ h => sat_ok (by simp only [List.length_cons]; omega)

theorem sat_str (cs : List Char) : Sat (fun _ rest => rest.length < cs.length) (parseStr cs) := by
  have : parseStr cs = andThen (parseStrChars cs) fun s rest => .ok (String.ofList s, rest) := by
    unfold parseStr; rcases parseStrChars cs with e | ⟨s, rest⟩ <;> rfl
  rw [this]
  exact (sat_strChars cs).andThen fun _ _ h => sat_ok h

/-- what the number lexer returns -/
def NumVal (fo : FloatOracle) (v : JVal) : Prop :=
  (∃ i : Int, v = .num i ∧ -9223372036854775808 ≤ i ∧ i ≤ 18446744073709551615) ∨
  ∃ p s e r, fo p s e = some r ∧ v = .float r

/-- a result of the number lexer on an input of `n` characters -/
abbrev NumSat (fo : FloatOracle) (n : Nat) : PRes JVal → Prop := Sat fun v rest => rest.length ≤ n ∧ NumVal fo v

theorem NumSat.mono {fo : FloatOracle} {n m : Nat} {r : PRes JVal} (h : NumSat fo n r) (hnm : n ≤ m) : NumSat fo m r :=
  Sat.mono h fun _ _ hq => ⟨Nat.le_trans hq.1 hnm, hq.2⟩

theorem dropDigits_length (cs : List Char) : (dropDigits cs).length ≤ cs.length := by
  fun_induction dropDigits cs <;> simp only [List.length_cons, List.length_nil] <;> omega

theorem numSat_f64 (fo : FloatOracle) {n : Nat} (p : Bool) (s : Nat) (e : Int) {rest : List Char} (h : rest.length ≤ n) :
    NumSat fo n (f64FromParts fo p s e rest) := by
  unfold f64FromParts
  split
  · exact sat_ok ⟨h, .inr ⟨p, s, e, _, ‹_›, rfl⟩⟩
  · exact sat_error (by decide)

theorem numSat_expOverflow (fo : FloatOracle) (p z pe : Bool) (cs : List Char) :
    NumSat fo cs.length (parseExponentOverflow fo p z pe cs) := by
  unfold parseExponentOverflow
  exact ite_ind (fun _ => sat_error (by decide)) fun _ => numSat_f64 fo _ _ _ (dropDigits_length cs)

theorem expLoop_length (cs : List Char) (exp : Nat) : (expLoop exp cs).2.length ≤ cs.length := by
  fun_induction expLoop exp cs <;> simp only [List.length_cons, List.length_nil] <;> omega

theorem expSign_length (cs : List Char) : (expSign cs).2.length ≤ cs.length := by
  fun_cases expSign cs <;> simp only [List.length_cons, List.length_nil] <;> omega

theorem numSat_exponent (fo : FloatOracle) (p : Bool) (s : Nat) (e : Int) (cs : List Char) :
    NumSat fo cs.length (parseExponent fo p s e cs) := by
  unfold parseExponent
  have hsigned := expSign_length cs
  split
  · exact sat_syntax
  · rename_i c cs2 heq
    rw [heq] at hsigned
    simp only [List.length_cons] at hsigned
    split
    · have hl := expLoop_length cs2 (digitVal c)
      split
      · rename_i rest hq
        rw [hq] at hl
        exact (numSat_expOverflow fo _ _ _ rest).mono (by simp only at hl; omega)
      · rename_i exp rest hq
        rw [hq] at hl
        exact numSat_f64 fo _ _ _ (by simp only at hl; omega)
    · exact sat_syntax

theorem numSat_tail (fo : FloatOracle) (p : Bool) (s : Nat) (e : Int) (cs : List Char) :
    NumSat fo cs.length (numberTail fo p s e cs) := by
  fun_cases numberTail fo p s e cs
  · exact numSat_f64 fo _ _ _ (Nat.le_refl _)
  · exact (numSat_exponent fo _ _ _ _).mono (Nat.le_succ _)
  · exact numSat_f64 fo _ _ _ (Nat.le_refl _)

theorem decLoop_length (cs : List Char) (s n : Nat) : (decLoop s n cs).2.2.2.length ≤ cs.length := by
  fun_induction decLoop s n cs <;> simp only [List.length_cons, List.length_nil] <;> omega

theorem numSat_decimal (fo : FloatOracle) (p : Bool) (s : Nat) (e : Int) (cs : List Char) :
    NumSat fo cs.length (parseDecimal fo p s e cs) := by
  unfold parseDecimal
  have hl := decLoop_length cs s 0
  split
  · rename_i sig n rest hq
    rw [hq] at hl
    exact (numSat_tail fo _ _ _ (dropDigits rest)).mono (by have := dropDigits_length rest; simp only at hl; omega)
  · rename_i sig n rest hq
    rw [hq] at hl
    split
    · exact sat_syntax
    · exact (numSat_tail fo _ _ _ rest).mono (by simp only at hl; omega)

theorem numSat_number (fo : FloatOracle) (p : Bool) (s : Nat) (hs : s ≤ u64Max) (cs : List Char) :
    NumSat fo cs.length (parseNumber fo p s cs) := by
  unfold u64Max at hs
  -- the three outcomes of a number without fraction and exponent: `u64`, `-0` or underflow as a float, `i64`
  have hint : ∀ rest, NumSat fo rest.length (if p = true then Except.ok (JVal.num s, rest)
      else if wrappingNegAsI64 s ≥ 0 then f64FromParts fo false s 0 rest else Except.ok (JVal.num (wrappingNegAsI64 s), rest)) :=
    fun rest => ite_ind (fun _ => sat_ok ⟨Nat.le_refl _, .inl ⟨s, rfl, by omega⟩⟩) fun _ =>
      ite_ind (fun _ => numSat_f64 fo _ _ _ (Nat.le_refl _)) fun hneg => by
        rw [wrappingNegAsI64_eq] at hneg ⊢
        exact sat_ok ⟨Nat.le_refl _, .inl ⟨_, rfl, by split at hneg <;> split <;> omega⟩⟩
  fun_cases parseNumber fo p s cs
  · exact hint []
  · exact (numSat_decimal fo _ _ _ _).mono (Nat.le_succ _)
  · exact (numSat_exponent fo _ _ _ _).mono (Nat.le_succ _)
  · exact hint _

theorem numSat_longInteger (fo : FloatOracle) (p : Bool) (s : Nat) (cs : List Char) (e : Nat) :
    NumSat fo cs.length (parseLongInteger fo p s e cs) := by
  fun_induction parseLongInteger fo p s e cs
  · exact numSat_f64 fo _ _ _ (Nat.le_refl _)
  · exact NumSat.mono ‹_› (Nat.le_succ _)
  · exact (numSat_decimal fo _ _ _ _).mono (Nat.le_succ _)
  · exact (numSat_exponent fo _ _ _ _).mono (Nat.le_succ _)
  · exact numSat_f64 fo _ _ _ (Nat.le_refl _)

theorem numSat_intLoop (fo : FloatOracle) (p : Bool) (cs : List Char) (s : Nat) (hs : s ≤ u64Max) :
    NumSat fo cs.length (intLoop fo p s cs) := by
  fun_induction intLoop fo p s cs
  · exact numSat_number fo p _ hs []
  · exact numSat_longInteger fo _ _ _ _
  · rename_i c cs hd hno ih
    have := mt (overflowMul_iff _ _ u64Max (digitVal_lt c hd)).mpr hno
    exact (ih (by omega)).mono (Nat.le_succ _)
  · exact numSat_number fo p _ hs _

theorem numSat_integer (fo : FloatOracle) (p : Bool) (c : Char) (cs : List Char) :
    NumSat fo cs.length (parseInteger fo p (c :: cs)) := by
  simp only [parseInteger]
  refine ite_ind (fun _ => ?_) fun _ => ite_ind (fun hd => numSat_intLoop fo p _ _ ?_) fun _ => sat_syntax
  · split
    · exact numSat_number fo p 0 (by decide) _
    · exact ite_ind (fun _ => sat_syntax) fun _ => numSat_number fo p 0 (by decide) _
  · have := digitVal_lt c hd; unfold u64Max; omega

theorem numSat_numTok (fo : FloatOracle) (c : Char) (cs : List Char) : NumSat fo cs.length (parseNumTok fo (c :: cs)) := by
  simp only [parseNumTok]
  refine ite_ind (fun _ => ?_) fun _ => ite_ind (fun _ => numSat_integer fo _ _ _) fun _ => sat_syntax
  cases cs with
  | nil => unfold parseInteger; exact sat_syntax
  | cons c' cs => exact (numSat_integer fo false c' cs).mono (Nat.le_succ _)

end AquaProps.JsonLemmas
