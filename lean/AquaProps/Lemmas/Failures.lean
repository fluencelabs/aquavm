import AquaProps.Lemmas.SetErrors
/-!
How the individual instructions fail (the state at the moment of failure), how `call` fails, and what
`fail :error:` does.  Used by C18.
-/
namespace AquaProps
open Aqua Aqua.Exec Aqua.Air Aqua.Json

theorem inner_match_fails (env : Env) (fuel : Nat) (a b : Value) (body : Instr) (c : Ctx)
    (h : areMatchableEq c a b = .ok false) :
    execInner env fuel (.match_ a b body) c = (.error (.catchable .matchValuesNotEqual), c) := by
  unfold execInner
  rw [bind_of_ok (joinable_of_ok (readER_of_ok h))]; rfl

theorem inner_mismatch_fails (env : Env) (fuel : Nat) (a b : Value) (body : Instr) (c : Ctx)
    (h : areMatchableEq c a b = .ok true) :
    execInner env fuel (.mismatch a b body) c = (.error (.catchable .mismatchValuesEqual), c) := by
  unfold execInner
  rw [bind_of_ok (joinable_of_ok (readER_of_ok h))]; rfl

theorem inner_match_operand_fails (env : Env) (fuel : Nat) (a b : Value) (body : Instr) (c : Ctx) (e : CatchableErr)
    (h : areMatchableEq c a b = .error (.catchable e)) (hj : e.isJoinable = false) :
    execInner env fuel (.match_ a b body) c = (.error (.catchable e), c) := by
  unfold execInner
  rw [bind_of_error (joinable_of_error (e := .catchable e) (readER_of_error h) hj)]

theorem inner_fold_fails (env : Env) (fuel : Nat) (iterable : Value) (iterator : String) (body : Instr) (last : Option Instr)
    (c : Ctx) (e : CatchableErr) (h : createScalarIterable c iterable = .error (.catchable e)) (hj : e.isJoinable = false) :
    execInner env fuel (.foldScalar iterable iterator body last) c = (.error (.catchable e), c) := by
  unfold execInner
  rw [bind_of_error (joinable_of_error (e := .catchable e) (readER_of_error h) hj)]

theorem inner_ap_fails (env : Env) (fuel : Nat) (arg : Value) (name : String) (c : Ctx) (e : CatchableErr)
    (h : applyToArg c arg = .error (.catchable e)) (hj : e.isJoinable = false) :
    execInner env fuel (.ap arg (.scalar name)) c = (.error (.catchable e), c) := by
  unfold execInner
  dsimp only
  rw [execAp, bind_of_error (joinable_of_error (e := .catchable e) (readER_of_error h) hj)]

theorem inner_fail_throws (env : Env) (fuel : Nat) (arg : FailArg) (c : Ctx) {v : JVal} {t : Option Tetraplet} {p : Provenance}
    (harg : arg ≠ .error) (h : failOperand c arg = .ok (v, t, p)) :
    execInner env fuel (.fail arg) c =
      (.error (.catchable (.userError v)),
       { c with lastError := { error := ⟨v, t, p, none⟩, canBeSet := false }, subgraphComplete := false }) := by
  unfold execInner
  rw [execFail, bind_of_ok (readER_of_ok h)]
  cases arg <;> first | exact absurd rfl harg | rfl

theorem inner_fail_operand_fails (env : Env) (fuel : Nat) (arg : FailArg) (c : Ctx) (e : CatchableErr)
    (h : failOperand c arg = .error (.catchable e)) :
    execInner env fuel (.fail arg) c = (.error (.catchable e), c) := by
  unfold execInner
  rw [execFail, bind_of_error (readER_of_error h)]

/-- `joinable (onError m (callSetErrors i t))` is one stage of `Call::execute` -/
theorem callStage_fails {α : Type} {m : M α} {i : Instr} {t : Option Tetraplet} {c c' : Ctx} {e : CatchableErr}
    (h : joinable (onError m (callSetErrors i t)) c = (.error (.catchable e), c')) :
    ∃ c1, m c = (.error (.catchable e), c1) ∧ c' = c1.setErrors e i.render t true := by
  rw [joinable_apply, onError_apply] at h
  generalize m c = r at h ⊢
  obtain ⟨a | e0 | s, c1⟩ := r
  · cases h
  · cases hj : e0.isJoinable <;> simp only [hj] at h <;> cases h
    exact ⟨c1, rfl, by simp [callSetErrors, show e.isJoinable = false from hj]⟩
  · cases h

theorem callStage_ok {α : Type} {m : M α} {f : ExecErr → Ctx → Ctx} {c c' : Ctx} {a : α}
    (h : joinable (onError m f) c = (.ok (some a), c')) : m c = (.ok a, c') := by
  rw [joinable_apply, onError_apply] at h
  generalize m c = r at h ⊢
  obtain ⟨a | e0 | s, c1⟩ := r
  · cases h; rfl
  · cases hj : e0.isJoinable <;> simp [hj] at h
  · cases h

/-- the two ways are `ResolvedCall::new` (the triplet does not resolve; no tetraplet) and
`ResolvedCall::execute` (service error, argument error; the resolved triplet is the tetraplet) -/
theorem call_fails_cases {env : Env} {i : Instr} {p s f : Value} {args : List Value} {out : CallOutput} {c c' : Ctx}
    {e : CatchableErr} (h : execCall env i p s f args out c = (.error (.catchable e), c')) :
    ∃ (t : Option Tetraplet) (c1 : Ctx),
      ((t = none ∧ c1 = c ∧ resolveCall c p s f out = .error (.catchable e)) ∨
       (∃ t', t = some t' ∧ resolveCall c p s f out = .ok t' ∧
          resolvedExecute env i t' args out c = (.error (.catchable e), c1))) ∧
      c' = c1.setErrors e i.render t true := by
  rw [execCall] at h
  rcases bind_error_cases h with h | ⟨_ | t, c1, h1, h2⟩
  · obtain ⟨c1, hm, hc⟩ := callStage_fails h
    obtain ⟨hr, rfl⟩ := Prod.mk.inj hm
    exact ⟨none, c, .inl ⟨rfl, rfl, hr⟩, hc⟩
  · cases h2
  · -- on its own line: inside `Prod.mk.inj (…)` the stage's `m` is guessed from the pair, and the kernel
    -- then checks the guess by evaluating the call
    have h1 := callStage_ok h1
    obtain ⟨hr, rfl⟩ := Prod.mk.inj h1
    rcases bind_error_cases h2 with h2 | ⟨_, _, _, h2⟩
    · obtain ⟨c1, hx, hc⟩ := callStage_fails h2
      exact ⟨some t, c1, .inr ⟨t, rfl, hr, hx⟩, hc⟩
    · cases h2

theorem failOperand_error (c : Ctx) (h : checkErrorObject c.error.error.error = .ok ()) :
    failOperand c .error = .ok (c.error.error.error, c.error.error.tetraplet, c.error.error.provenance) := by
  simp [failOperand, errObjER, h, Res.mapErr, bind, Res.bind, pure]

theorem failOperand_lastError (c : Ctx) (h : checkErrorObject c.lastError.error.error = .ok ()) :
    failOperand c .lastError = .ok (c.lastError.error.error, c.lastError.error.tetraplet, c.lastError.error.provenance) := by
  simp [failOperand, errObjER, h, Res.mapErr, bind, Res.bind, pure]

/-- the error `fail :error:` raises; `origCatchable` is set by the xor that caught the error -/
def failErrorRaises (c : Ctx) : CatchableErr :=
  match c.error.error.origCatchable with
  | some o => o
  | none => .userError c.error.error.error

/-- `fail_with_error` -/
theorem inner_fail_error (env : Env) (fuel : Nat) (c : Ctx) (h : checkErrorObject c.error.error.error = .ok ()) :
    execInner env fuel (.fail .error) c =
      (.error (.catchable (failErrorRaises c)),
       { c with lastError := { error := ⟨c.error.error.error, c.error.error.tetraplet, c.error.error.provenance, none⟩, canBeSet := false },
                subgraphComplete := false,
                error := { c.error with canBeSet := false } }) := by
  unfold execInner
  rw [execFail, bind_of_ok (readER_of_ok (failOperand_error c h))]
  simp only [execFailError, failErrorRaises]
  rw [bind_readCtx, bind_tryM]
  cases c.error.error.origCatchable <;> rfl

end AquaProps
