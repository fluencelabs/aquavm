import AquaProps.Lemmas.ExecRel
/-!
The relation `Grow` between the context before and after any piece of execution: the peer ids do not
change, call requests are only appended and carry the consecutive ids `lcid+1, lcid+2, …`, next peers
are only appended and are never the current peer.  Of the primitive updates only three touch the fields it
speaks about (`obs`): issuing a request and the two forwarding steps.
-/
namespace AquaProps
open Aqua Aqua.Exec Aqua.Air Aqua.Trace Aqua.Json

def numbered : Nat → List CallRequest → List (Nat × CallRequest)
  | _, [] => []
  | n, r :: rs => (n, r) :: numbered (n + 1) rs

theorem numbered_append (n : Nat) (a b : List CallRequest) :
    numbered n (a ++ b) = numbered n a ++ numbered (n + a.length) b := by
  induction a generalizing n with
  | nil => simp [numbered]
  | cons x xs ih =>
    have : n + 1 + xs.length = n + (xs.length + 1) := by omega
    simp [numbered, ih, this]

theorem numbered_eq_zip (n : Nat) (rs : List CallRequest) : numbered n rs = (List.range' n rs.length).zip rs := by
  induction rs generalizing n with
  | nil => rfl
  | cons r rs ih => simp [numbered, ih, List.range'_succ]

theorem mem_numbered {n : Nat} {rs : List CallRequest} {x : Nat × CallRequest} (h : x ∈ numbered n rs) :
    n ≤ x.1 ∧ x.1 < n + rs.length ∧ x.2 ∈ rs := by
  rw [numbered_eq_zip] at h
  simpa [List.mem_range'_1, and_assoc] using List.of_mem_zip h

theorem numbered_ids_increasing (n : Nat) (rs : List CallRequest) : ((numbered n rs).map (·.1)).Pairwise (· < ·) := by
  rw [numbered_eq_zip, List.map_fst_zip (by simp)]
  exact List.pairwise_lt_range'

structure Grow (c c' : Ctx) : Prop where
  me : c'.currentPeerId = c.currentPeerId
  init : c'.initPeerId = c.initPeerId
  reqs : ∃ rs : List CallRequest,
    c'.callRequests = c.callRequests ++ numbered (c.lastCallRequestId + 1) rs ∧
    c'.lastCallRequestId = c.lastCallRequestId + rs.length ∧
    ∀ r ∈ rs, r.forPeer = c.currentPeerId
  next : ∃ ps : List String, c'.nextPeerPks = c.nextPeerPks ++ ps ∧ ∀ p ∈ ps, p ≠ c.currentPeerId

structure SameObs (c c' : Ctx) : Prop where
  me : c'.currentPeerId = c.currentPeerId
  init : c'.initPeerId = c.initPeerId
  reqs : c'.callRequests = c.callRequests
  lcid : c'.lastCallRequestId = c.lastCallRequestId
  next : c'.nextPeerPks = c.nextPeerPks

theorem SameButStreams.sameObs {c c' : Ctx} (h : SameButStreams c c') : SameObs c c' :=
  ⟨h.me, h.init, h.reqs, h.lcid, h.next⟩

theorem sameObs_withScalarsRet {α} {c c' : Ctx} {a : α} {g : Scalars → ER (α × Scalars)} (h : withScalarsRet c g = .ok (a, c')) : SameObs c c' :=
  (sameData_withScalarsRet h).sameButStreams.sameObs

def obs (c : Ctx) : String × String × List (Nat × CallRequest) × Nat × List String :=
  (c.currentPeerId, c.initPeerId, c.callRequests, c.lastCallRequestId, c.nextPeerPks)

theorem SameObs.obs {c c' : Ctx} (h : SameObs c c') : obs c' = obs c := by
  simp only [AquaProps.obs, h.me, h.init, h.reqs, h.lcid, h.next]

theorem Grow.of_obs {c c' : Ctx} (rs : List CallRequest) (ps : List String)
    (h : obs c' = (c.currentPeerId, c.initPeerId, c.callRequests ++ numbered (c.lastCallRequestId + 1) rs,
      c.lastCallRequestId + rs.length, c.nextPeerPks ++ ps))
    (hrs : ∀ r ∈ rs, r.forPeer = c.currentPeerId) (hps : ∀ p ∈ ps, p ≠ c.currentPeerId) : Grow c c' := by
  simp only [obs, Prod.mk.injEq] at h
  exact ⟨h.1, h.2.1, ⟨rs, h.2.2.1, h.2.2.2.1, hrs⟩, ⟨ps, h.2.2.2.2, hps⟩⟩

theorem Grow.of_same {c c' : Ctx} (h : obs c' = obs c) : Grow c c' :=
  .of_obs [] [] (by simpa [numbered, obs] using h) (by simp) (by simp)

theorem grow_preorder : Preorder' Grow where
  refl c := .of_same rfl
  trans := by
    intro a b c hab hbc
    obtain ⟨rs1, hr1, hl1, hf1⟩ := hab.reqs
    obtain ⟨rs2, hr2, hl2, hf2⟩ := hbc.reqs
    obtain ⟨ps1, hp1, hn1⟩ := hab.next
    obtain ⟨ps2, hp2, hn2⟩ := hbc.next
    refine ⟨hbc.me.trans hab.me, hbc.init.trans hab.init, ⟨rs1 ++ rs2, ?_, ?_, ?_⟩, ⟨ps1 ++ ps2, ?_, ?_⟩⟩
    · rw [hr2, hr1, hl1, numbered_append]
      simp [List.append_assoc, Nat.add_assoc, Nat.add_comm, Nat.add_left_comm]
    · rw [hl2, hl1]; simp [Nat.add_assoc]
    · intro r hr
      rcases List.mem_append.mp hr with h | h
      · exact hf1 r h
      · rw [hf2 r h, hab.me]
    · rw [hp2, hp1]; simp
    · intro p hp
      rcases List.mem_append.mp hp with h | h
      · exact hn1 p h
      · exact hab.me ▸ hn2 p h

theorem obs_updPrevFailed (t : Tetraplet) (cid : String) (st : Data.CallResult) (c : Ctx) : obs (updPrevFailed t cid st c) = obs c := by
  simp only [updPrevFailed, recordCallCid_eq, obs]

theorem obs_updPrevExecuted (t : Tetraplet) (value : Data.ValueRef) (c : Ctx) : obs (updPrevExecuted t value c) = obs c := by
  cases value <;> simp only [updPrevExecuted, recordCallCid_eq, obs]

/-- registering an id (`recordCallCid_eq`) only appends to `peerCids` -/
theorem obs_prev (env : Env) : PrevPrims env fun c c' => obs c' = obs c where
  pre := ⟨fun _ => rfl, fun h1 h2 => h2.trans h1⟩
  inc := fun _ => rfl
  failedService := fun _ _ _ _ => by simp only [updFailedService, recordCallCid_eq, obs]
  serviceResult := by
    intro result t ah out c c' h
    obtain ⟨cid, rfl⟩ | ⟨cid, cs, c0, cr, _, hs, _, rfl⟩ := updServiceResult_eq_ok h
    · rfl
    · simpa only [recordCallCid_eq, obs] using hs.sameObs.obs
  prevFailed := fun t cid c => obs_updPrevFailed t cid _ c
  dropResult := fun _ _ => rfl
  prevExecutedBind := fun _ _ _ _ _ _ _ _ h => (sameButStreams_populateFromData h).sameObs.obs
  prevExecuted := obs_updPrevExecuted

theorem grow_prims : ExecPrims Grow where
  pre := grow_preorder
  ctl := fun _ _ h => .of_same h.sameButStreams.sameObs.obs
  thCallStart := fun _ _ _ _ => .of_same rfl
  thParStart := fun _ _ _ => .of_same rfl
  thParEnd := fun _ _ _ _ => .of_same rfl
  pushRequest := fun _ _ => .of_same rfl
  failedService := fun env t ah sr c => .of_same ((obs_prev env).failedService t ah sr c)
  serviceResult := fun env result t ah out c c' h => .of_same ((obs_prev env).serviceResult result t ah out c c' h)
  prevFailed := fun t cid c => .of_same (obs_updPrevFailed t cid _ c)
  dropResult := fun _ _ => .of_same rfl
  prevExecutedBind := fun env c value ah t pos out src c' h => .of_same ((obs_prev env).prevExecutedBind c value ah t pos out src c' h)
  prevExecuted := fun t value c => .of_same (obs_updPrevExecuted t value c)
  issue := by
    intro t args c c' ht h
    obtain ⟨vs, tss, _, rfl⟩ := issueRequest_eq_ok h
    exact .of_obs [⟨t.serviceId, t.functionName, vs, tss, t.peerPk⟩] [] (by simp [obs, numbered]) (by simpa using ht) (by simp)
  remote := fun t c hne => .of_obs [] [t.peerPk] (by simp [obs, numbered, updRemoteCall]) (by simp) (by simpa using hne)
  streamUpd := fun _ _ h => .of_same h.sameObs.obs
  thApStart := fun _ _ _ _ => .of_same rfl
  pushAp := fun _ => .of_same rfl
  thCanonStart := fun _ _ _ _ => .of_same rfl
  canonTrack := fun _ _ _ _ _ _ => .of_same rfl
  canonFinish := by
    intro name cs cid reg c c' h
    obtain ⟨sc, _, rfl⟩ := updCanonFinish_eq_ok h
    exact .of_same (by simp only [recordCanonCid_eq, obs])
  canonPushRequest := fun _ _ => .of_same rfl
  canonRemote := fun c peerId hne => .of_obs [] [peerId] (by simp [obs, numbered]) (by simp) (by simpa using hne)
  foldCount := fun _ => .of_same rfl
  thFoldOp := fun _ _ _ => .of_same rfl
  scopeEnd := by
    intro name c c' h
    obtain ⟨_, _, _, _, _, _, _, rfl⟩ := streamScopeEnd_eq_ok h
    exact .of_same rfl

theorem exec_grow (env : Env) (fuel : Nat) (i : Instr) : Rel Grow (exec env fuel i) :=
  exec_rel grow_prims env fuel i

theorem grow_setErrorsOf (e : ExecErr) (i : Instr) (c : Ctx) : Grow c (c.setErrorsOf e i) := ep_setErrorsOf grow_prims e i c

theorem grow_execCall (env : Env) (i : Instr) (p s f : Value) (args : List Value) (out : CallOutput) :
    Rel Grow (execCall env i p s f args out) := ep_execCall (grow_prims.call env) i p s f args out

theorem grow_execFail (arg : FailArg) : Rel Grow (execFail arg) := ep_execFail grow_prims arg

theorem grow_execAp (arg : Value) (out : CallOutput) : Rel Grow (execAp arg out) := ep_execAp grow_prims arg out

theorem grow_xorEnterRight (e : CatchableErr) (c : Ctx) : Grow c (xorEnterRight e c) := ep_xorEnterRight grow_prims e c

theorem grow_xorLeaveRight (b : Bool) (c : Ctx) : Grow c (xorLeaveRight b c) := ep_xorLeaveRight grow_prims b c

end AquaProps
