import Aqua.Run.Net
import AquaProps.Lemmas.CtxFrames
/-!
Lifting per-run theorems to every state honest hosts can reach (`Aqua.Net.Reachable`).

Every enabled event absorbs one invocation of the interpreter (`step_eq_some`), so there is one induction over
histories (`reachable_induction_invoke`).  Its main instance is `reachable_inv`: every run recorded in a reachable
state is an invocation of the execution stage model on the recorded inputs (`genuine`: so any theorem that holds for
all inputs holds for every run of every honest history, whatever the script, the services and the schedule), and per
peer each run's previous data is what the preceding run of that peer returned, the first one starting from empty data
and the host storing what the last one returned (`chained`, `stored`).  What the host gets is the final context of the
execution stage or its compaction (`farewell_of`), which leaves the requests, their counter, the next peers and the CID
stores alone (`Genuine.frame`).
-/
namespace AquaProps.NetLift
open Aqua Aqua.Exec Aqua.Air Aqua.Net AquaProps

theorem runExecFarewell_ctx (env : Env) (fuel : Nat) (script : Instr) (prev cur : DataIn) (p : RunParams)
    (results : List (String × CallServiceResult)) :
    (runExecFarewell env fuel script prev cur p results).2 = (runExec env fuel script prev cur p results).2 ∨
    (runExec env fuel script prev cur p results).2.compactifyStreams = .ok (runExecFarewell env fuel script prev cur p results).2 := by
  unfold runExecFarewell
  obtain ⟨res, cx⟩ := runExec env fuel script prev cur p results
  simp only
  split
  · split
    · exact .inr ‹_›
    · exact .inl rfl
    · exact .inl rfl
  · split
    · exact .inr ‹_›
    · exact .inl rfl
    · exact .inl rfl
  · exact .inl rfl

theorem farewell_of {Q : Ctx → Prop} (hQ : ∀ c c', c.compactifyStreams = .ok c' → Q c → Q c') (env : Env) (fuel : Nat)
    (script : Instr) (prev cur : DataIn) (p : RunParams) (results : List (String × CallServiceResult))
    (h : Q (runExec env fuel script prev cur p results).2) : Q (runExecFarewell env fuel script prev cur p results).2 := by
  obtain e | hc := runExecFarewell_ctx env fuel script prev cur p results
  · rw [e]; exact h
  · exact hQ _ _ hc h

/-- agreement on what `Run.newData`, `Run.requests` and `Run.nextPeers` read, the trace apart -/
structure SameOut (c c' : Ctx) : Prop where
  reqs : c'.callRequests = c.callRequests
  lcid : c'.lastCallRequestId = c.lastCallRequestId
  next : c'.nextPeerPks = c.nextPeerPks
  cid : c'.cid = c.cid

/-- the compaction touches only the stream store and the trace handler -/
theorem farewell_frame (env : Env) (fuel : Nat) (script : Instr) (prev cur : DataIn) (p : RunParams)
    (results : List (String × CallServiceResult)) :
    SameOut (runExec env fuel script prev cur p results).2 (runExecFarewell env fuel script prev cur p results).2 :=
  farewell_of (Q := SameOut _) (fun _ _ hc h => by obtain ⟨_, _, _, rfl⟩ := compactifyStreams_eq_ok hc; exact ⟨h.1, h.2, h.3, h.4⟩)
    env fuel script prev cur p results ⟨rfl, rfl, rfl, rfl⟩

def Genuine (env : Env) (P : Particle) (r : Run) : Prop :=
  (r.res, r.out) = runExecFarewell env r.fuel P.script r.prev r.cur ⟨P.initPeer, r.peer, P.timestamp, P.ttl⟩ r.results

theorem invoke_genuine (env : Env) (P : Particle) (st : NetSt) (q : String) (cur : DataIn)
    (results : List (String × CallServiceResult)) : Genuine env P (invoke env P st q cur results) := rfl

theorem invoke_peer (env : Env) (P : Particle) (st : NetSt) (q : String) (cur : DataIn)
    (results : List (String × CallServiceResult)) : (invoke env P st q cur results).peer = q := rfl

theorem invoke_prev (env : Env) (P : Particle) (st : NetSt) (q : String) (cur : DataIn)
    (results : List (String × CallServiceResult)) : (invoke env P st q cur results).prev = (peerSt st q).data := rfl

/-- the data a peer's host holds after the given runs of that peer (oldest first), starting from `d` -/
def lastData (d : DataIn) : List Run → DataIn
  | [] => d
  | r :: rs => lastData r.newData rs

def ChainedFrom (d : DataIn) : List Run → Prop
  | [] => True
  | r :: rs => r.prev = d ∧ ChainedFrom r.newData rs

theorem chainedFrom_append {d : DataIn} {rs : List Run} {r : Run} (h : ChainedFrom d rs) (hp : r.prev = lastData d rs) :
    ChainedFrom d (rs ++ [r]) := by
  induction rs generalizing d with
  | nil => exact ⟨hp, trivial⟩
  | cons x xs ih => exact ⟨h.1, ih h.2 hp⟩

theorem lastData_append (d : DataIn) (rs : List Run) (r : Run) : lastData d (rs ++ [r]) = r.newData := by
  induction rs generalizing d with
  | nil => rfl
  | cons x xs ih => exact ih x.newData

structure Inv (env : Env) (P : Particle) (st : NetSt) : Prop where
  genuine : ∀ r ∈ st.runs, Genuine env P r
  chained : ∀ q, ChainedFrom {} (runsOf st q)
  stored : ∀ q, (peerSt st q).data = lastData {} (runsOf st q)

/-- the parameters with which the host of `r.peer` invokes the interpreter on particle `P` -/
abbrev params (P : Particle) (r : Run) : RunParams := ⟨P.initPeer, r.peer, P.timestamp, P.ttl⟩

/-- the context in which the execution stage of run `r` ends, before the farewell compaction -/
abbrev execCtx (env : Env) (P : Particle) (r : Run) : Ctx := (runExec env r.fuel P.script r.prev r.cur (params P r) r.results).2

theorem Genuine.res {env : Env} {P : Particle} {r : Run} (hg : Genuine env P r) :
    r.res = (runExecFarewell env r.fuel P.script r.prev r.cur (params P r) r.results).1 :=
  congrArg Prod.fst hg

theorem Genuine.out {env : Env} {P : Particle} {r : Run} (hg : Genuine env P r) :
    r.out = (runExecFarewell env r.fuel P.script r.prev r.cur (params P r) r.results).2 :=
  congrArg Prod.snd hg

theorem Genuine.frame {env : Env} {P : Particle} {r : Run} (hg : Genuine env P r) : SameOut (execCtx env P r) r.out := by
  rw [hg.out]; exact farewell_frame ..

theorem Genuine.mem_requests {env : Env} {P : Particle} {r : Run} (hg : Genuine env P r) {x : Nat × CallRequest} (hx : x ∈ r.requests) :
    x ∈ (execCtx env P r).callRequests := by
  unfold Run.requests at hx
  split at hx
  · exact hg.frame.reqs ▸ hx
  · cases hx

theorem Genuine.mem_nextPeers {env : Env} {P : Particle} {r : Run} (hg : Genuine env P r) {q : String} (hq : q ∈ r.nextPeers) :
    q ∈ (execCtx env P r).nextPeerPks := by
  unfold Run.nextPeers at hq
  split at hq
  · exact hg.frame.next ▸ hq
  · cases hq

theorem runsOf_absorb (st : NetSt) (r : Run) (q : String) :
    runsOf (absorb st r) q = runsOf st q ++ (if r.peer == q then [r] else []) := by
  show (st.runs ++ [r]).filter _ = _
  simp only [List.filter_append, List.filter_cons, List.filter_nil, runsOf]

theorem runsOf_absorb_self (st : NetSt) (r : Run) : runsOf (absorb st r) r.peer = runsOf st r.peer ++ [r] := by
  rw [runsOf_absorb, beq_self_eq_true, if_pos rfl]

theorem runsOf_absorb_other (st : NetSt) (r : Run) (q : String) (h : r.peer ≠ q) : runsOf (absorb st r) q = runsOf st q := by
  rw [runsOf_absorb, beq_eq_false_iff_ne.mpr h, if_neg Bool.false_ne_true, List.append_nil]

theorem peerSt_absorb_self (st : NetSt) (r : Run) :
    peerSt (absorb st r) r.peer = ⟨r.newData,
      (peerSt st r.peer).pending.filter (fun x => !(r.results.any fun kv => kv.1 == toString x.1)) ++ r.requests⟩ := by
  simp only [peerSt, absorb, lookup_upsert_self, Option.getD_some]

theorem peerSt_absorb_other (st : NetSt) (r : Run) (q : String) (h : q ≠ r.peer) : peerSt (absorb st r) q = peerSt st q := by
  simp only [peerSt, absorb, lookup_upsert, if_neg h]

theorem data_absorb {Q : DataIn → Prop} {st : NetSt} {r : Run} (hs : ∀ q, Q (peerSt st q).data) (hw : ∀ m ∈ st.wire, Q m.data)
    (hn : Q r.newData) : (∀ q, Q (peerSt (absorb st r) q).data) ∧ ∀ m ∈ (absorb st r).wire, Q m.data := by
  refine ⟨fun q => ?_, fun m hm => ?_⟩
  · by_cases hq : q = r.peer
    · rw [hq, peerSt_absorb_self]; exact hn
    · rw [peerSt_absorb_other _ _ _ hq]; exact hs q
  · rcases List.mem_append.mp (show m ∈ st.wire ++ r.nextPeers.map (fun q => (⟨q, r.newData⟩ : Msg)) from hm) with hm | hm
    · exact hw m hm
    · obtain ⟨q, _, rfl⟩ := List.mem_map.mp hm
      exact hn

theorem runs_absorb {Q : Run → Prop} {st : NetSt} {r : Run} (hs : ∀ x ∈ st.runs, Q x) (hr : Q r) : ∀ x ∈ (absorb st r).runs, Q x := by
  intro x hx
  rcases List.mem_append.mp (show x ∈ st.runs ++ [r] from hx) with hx | hx
  · exact hs x hx
  · cases List.mem_singleton.mp hx; exact hr

theorem inv_absorb {env : Env} {P : Particle} {st : NetSt} (h : Inv env P st) (r : Run)
    (hg : Genuine env P r) (hp : r.prev = (peerSt st r.peer).data) : Inv env P (absorb st r) := by
  refine ⟨runs_absorb h.genuine hg, fun q => ?_, fun q => ?_⟩
  · by_cases hq : r.peer = q
    · subst hq
      rw [runsOf_absorb_self]
      exact chainedFrom_append (h.chained r.peer) (by rw [hp, h.stored])
    · rw [runsOf_absorb_other _ _ _ hq]
      exact h.chained q
  · by_cases hq : r.peer = q
    · subst hq
      rw [runsOf_absorb_self, lastData_append, peerSt_absorb_self]
    · rw [runsOf_absorb_other _ _ _ hq, peerSt_absorb_other _ _ _ (Ne.symm hq)]
      exact h.stored q

theorem inv_wire {env : Env} {P : Particle} {st : NetSt} (h : Inv env P st) (w : List Msg) : Inv env P { st with wire := w } :=
  ⟨h.genuine, h.chained, h.stored⟩

theorem inv_init (env : Env) (P : Particle) : Inv env P {} :=
  { genuine := fun r h => (by cases h), chained := fun _ => trivial, stored := fun _ => rfl }

theorem step_eq_some {env : Env} {svc : Services} {P : Particle} {st st' : NetSt} {e : Event}
    (h : step env svc P st e = some st') :
    ∃ q cur results w, (cur = {} ∨ ∃ m ∈ st.wire, cur = m.data) ∧
      w.Sublist (absorb st (invoke env P st q cur results)).wire ∧ st' = { absorb st (invoke env P st q cur results) with wire := w } := by
  cases e with
  | start =>
    simp only [step] at h
    split at h <;> cases h
    exact ⟨_, _, _, _, .inl rfl, .refl _, rfl⟩
  | deliver k dup =>
    simp only [step] at h
    split at h <;> cases h
    rename_i m hm
    have hcur : m.data = {} ∨ ∃ m' ∈ st.wire, m.data = m'.data := .inr ⟨m, List.mem_of_getElem? hm, rfl⟩
    cases dup
    · exact ⟨_, _, _, _, hcur, (List.eraseIdx_sublist ..).append (.refl _), rfl⟩
    · exact ⟨_, _, _, _, hcur, .refl _, rfl⟩
  | answer q ids =>
    simp only [step] at h
    split at h <;> cases h
    exact ⟨_, _, _, _, .inl rfl, .refl _, rfl⟩

theorem reachable_induction_invoke {env : Env} {svc : Services} {P : Particle} (Q : NetSt → Prop) (h0 : Q {})
    (hwire : ∀ st w, List.Sublist w st.wire → Q st → Q { st with wire := w })
    (habs : ∀ st q cur results, Q st → (cur = {} ∨ ∃ m ∈ st.wire, cur = m.data) → Q (absorb st (invoke env P st q cur results)))
    {st : NetSt} (h : Reachable env svc P st) : Q st := by
  obtain ⟨es, hp⟩ := h
  suffices ∀ (es : List Event) (s s' : NetSt), Q s → play env svc P s es = some s' → Q s' from this es {} st h0 hp
  intro es
  induction es with
  | nil => intro s s' hq hp; cases hp; exact hq
  | cons e es ih =>
    intro s s' hq hp
    simp only [play] at hp
    split at hp
    · rename_i s1 hs
      obtain ⟨q, cur, results, w, hcur, hw, rfl⟩ := step_eq_some hs
      exact ih _ s' (hwire _ w hw (habs s q cur results hq hcur)) hp
    · cases hp

theorem reachable_induction {env : Env} {svc : Services} {P : Particle} (Q : NetSt → Prop)
    (h0 : Q {}) (hwire : ∀ st w, List.Sublist w st.wire → Q st → Q { st with wire := w }) (habs : ∀ st r, Q st → Q (absorb st r))
    {st : NetSt} (h : Reachable env svc P st) : Q st :=
  reachable_induction_invoke Q h0 hwire (fun st _ _ _ h _ => habs st _ h) h

theorem reachable_inv {env : Env} {svc : Services} {P : Particle} {st : NetSt} (h : Reachable env svc P st) : Inv env P st :=
  reachable_induction_invoke (Inv env P) (inv_init env P) (fun _ w _ h => inv_wire h w)
    (fun _ _ _ _ h _ => inv_absorb h _ (invoke_genuine ..) rfl) h

end AquaProps.NetLift
