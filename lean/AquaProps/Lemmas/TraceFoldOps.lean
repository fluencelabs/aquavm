import AquaProps.Lemmas.TraceOpsLang
/-!
The map of fold FSMs (`lookupFsm`, `setFold`) and the effect of each fold operation of the trace-handler model, and of
`update_generation`, on the FSM it names.
-/
namespace Aqua.Trace
open Aqua Aqua.Data

def lookupFsm {β : Type} : List (Nat × β) → Nat → Option β
  | [], _ => none
  | (i, g) :: rest, id => if i = id then some g else lookupFsm rest id

theorem find_eq_lookup {β : Type} (m : List (Nat × β)) (id : Nat) :
    (m.find? (fun (i, _) => i == id)).map (·.2) = lookupFsm m id := by
  induction m with
  | nil => rfl
  | cons p rest ih =>
    obtain ⟨i, g⟩ := p
    by_cases h : i = id
    · rw [List.find?_cons_of_pos (by simp [h])]; simp [lookupFsm, h]
    · rw [List.find?_cons_of_neg (by simp [h]), ih]; simp [lookupFsm, h]

theorem lookup_map_set {β : Type} (m : List (Nat × β)) (id id' : Nat) (f : β) :
    lookupFsm (m.map fun x => if x.fst = id then (x.fst, f) else (x.fst, x.snd)) id' =
      if id' = id then (lookupFsm m id).map (fun _ => f) else lookupFsm m id' := by
  induction m with
  | nil => simp [lookupFsm]
  | cons p rest ih =>
    obtain ⟨i, g⟩ := p
    by_cases hi : i = id
    · by_cases h3 : i = id'
      · simp [lookupFsm, hi, ← h3]
      · have : ¬ id' = id := by omega
        have : ¬ id = id' := by omega
        simp [lookupFsm, *]
    · by_cases h3 : i = id'
      · have : ¬ id' = id := by omega
        simp [lookupFsm, h3, this]
      · simp [lookupFsm, hi, h3, ih]

theorem lookup_filter {β : Type} (m : List (Nat × β)) (id id' : Nat) :
    lookupFsm (m.filter (fun (i, _) => i != id)) id' = if id' = id then none else lookupFsm m id' := by
  induction m with
  | nil => simp [lookupFsm]
  | cons p rest ih =>
    obtain ⟨i, g⟩ := p
    by_cases hi : i = id
    · rw [List.filter_cons_of_neg (by simp [hi]), ih]
      by_cases h2 : id' = id
      · simp [h2]
      · have : ¬ i = id' := by omega
        simp [lookupFsm, h2, this]
    · rw [List.filter_cons_of_pos (by simp [hi])]
      by_cases h3 : i = id'
      · have : ¬ id' = id := by omega
        simp [lookupFsm, h3, this]
      · simp [lookupFsm, h3, ih]

theorem mem_of_lookupFsm {β : Type} {m : List (Nat × β)} {id : Nat} {g : β} (h : lookupFsm m id = some g) :
    (id, g) ∈ m := by
  induction m with
  | nil => cases h
  | cons p rest ih =>
    obtain ⟨i, g'⟩ := p
    unfold lookupFsm at h
    split at h
    · next hi => cases h; exact hi ▸ List.mem_cons_self
    · exact List.mem_cons_of_mem _ (ih h)

/-- the fold FSM registered under `id` (`FSMKeeper::fold_mut`) -/
def TraceHandler.fsm (h : TraceHandler) (id : Nat) : Option FoldFSM := lookupFsm h.foldMap id

theorem foldMut_eq_ok {h : TraceHandler} {id : Nat} {f : FoldFSM} : h.foldMut id = .ok f ↔ h.fsm id = some f := by
  unfold TraceHandler.foldMut TraceHandler.fsm
  rw [← find_eq_lookup]
  cases h.foldMap.find? (fun (i, _) => i == id) with
  | none => simp
  | some p => obtain ⟨i, g⟩ := p; simp

theorem fsm_setFold (h : TraceHandler) (id id' : Nat) (f : FoldFSM) :
    (h.setFold id f).fsm id' = if id' = id then (h.fsm id).map (fun _ => f) else h.fsm id' := by
  have := lookup_map_set h.foldMap id id' f
  unfold TraceHandler.setFold TraceHandler.fsm
  simpa using this

theorem fsm_setFold_of_some {h : TraceHandler} {id : Nat} {f0 : FoldFSM} (hf : h.fsm id = some f0) (f : FoldFSM)
    (id' : Nat) : (h.setFold id f).fsm id' = if id' = id then some f else h.fsm id' := by
  rw [fsm_setFold, hf]; rfl

namespace FoldFSM
variable {f f' : FoldFSM} {k k' : DataKeeper}

/-- the lore constructors of the running batch -/
def ctors (f : FoldFSM) : List SubTraceLoreCtor := f.queue.map (·.ctor)

theorem ctors_setCtor (f : FoldFSM) (i : Nat) (c : SubTraceLoreCtor) : (f.setCtor i c).ctors = f.ctors.set i c :=
  List.map_set

theorem ctors_getElem? {i : Nat} {d : LoreCtorDesc} (h : f.queue[i]? = some d) :
    f.ctors[i]? = some d.ctor := by
  simp [ctors, h]

theorem meetIterationStart_eff {vp : Nat} (e : f.meetIterationStart vp k = .ok (f', k')) :
    k'.resultTrace = k.resultTrace ∧ f'.inserterPos = f.inserterPos ∧ f'.resultLore = f.resultLore ∧
      f'.ctors = f.ctors ++ [{ valuePos := vp, beforeStart := k.resultTrace.length }] ∧
      f'.backTraversalPos = f.backTraversalPos + 1 ∧ f'.backTraversalStarted = f.backTraversalStarted := by
  unfold meetIterationStart at e
  simp only [Res.bind_eq_ok, Res.pure_eq_ok, Prod.mk.injEq] at e
  obtain ⟨k1, hk1, rfl, rfl⟩ := e
  have ht := applyFoldLore_trace hk1
  refine ⟨ht, rfl, rfl, ?_, rfl, rfl⟩
  simp only [ctors, List.map_append, List.map_cons, List.map_nil, DataKeeper.resultTraceNextPos, ht]

theorem current_eff {i : Nat} {d : LoreCtorDesc} (e : f.current = .ok (i, d)) :
    f.backTraversalPos = i + 1 ∧ f.queue[i]? = some d := by
  unfold current at e
  split at e
  · cases e
  · split at e
    · rename_i d' hd
      cases e
      exact ⟨by omega, hd⟩
    · cases e

theorem meetIterationEnd_eff (e : f.meetIterationEnd k = .ok f') :
    ∃ i c, f.backTraversalPos = i + 1 ∧ f.ctors[i]? = some c ∧ f'.ctors = f.ctors.set i (c.beforeEnd' k) ∧
      f'.inserterPos = f.inserterPos ∧ f'.resultLore = f.resultLore ∧
      f'.backTraversalPos = f.backTraversalPos ∧ f'.backTraversalStarted = f.backTraversalStarted := by
  unfold meetIterationEnd at e
  simp only [Res.bind_eq_ok, Res.pure_eq_ok] at e
  obtain ⟨⟨i, d⟩, hc, rfl⟩ := e
  obtain ⟨hb, hq⟩ := current_eff hc
  exact ⟨i, d.ctor, hb, ctors_getElem? hq, ctors_setCtor f i _, rfl, rfl, rfl, rfl⟩

/-- `meet_back_iterator`, first call of a batch: closes the before-part if `next` did not, opens the after-part -/
theorem meetBackIterator_first_eff (hs : f.backTraversalStarted = false) (e : f.meetBackIterator k = .ok (f', k')) :
    ∃ i c, f.backTraversalPos = i + 1 ∧ f.ctors[i]? = some c ∧
      f'.ctors = f.ctors.set i ((c.maybeBeforeEnd k).afterStart' k) ∧
      k'.resultTrace = k.resultTrace ∧ f'.inserterPos = f.inserterPos ∧ f'.resultLore = f.resultLore ∧
      f'.backTraversalPos = f.backTraversalPos ∧ f'.backTraversalStarted = true := by
  unfold meetBackIterator at e
  simp only [hs, Bool.not_false, if_true, Res.bind_eq_ok, Res.pure_eq_ok, Prod.mk.injEq] at e
  obtain ⟨⟨i, d⟩, hc, k1, hk1, rfl, rfl⟩ := e
  obtain ⟨hb, hq⟩ := current_eff hc
  exact ⟨i, d.ctor, hb, ctors_getElem? hq, ctors_setCtor f i _, applyFoldLore_trace hk1, rfl, rfl, rfl, rfl⟩

/-- `meet_back_iterator`, later calls: closes the after-part of the current iteration, steps back, opens the
after-part of the enclosing one -/
theorem meetBackIterator_next_eff (hs : f.backTraversalStarted = true) (e : f.meetBackIterator k = .ok (f', k')) :
    ∃ j c c2, f.backTraversalPos = j + 2 ∧ f.ctors[j + 1]? = some c ∧ f.ctors[j]? = some c2 ∧
      f'.ctors = (f.ctors.set (j + 1) (c.afterEnd' k)).set j (c2.afterStart' k) ∧
      k'.resultTrace = k.resultTrace ∧ f'.inserterPos = f.inserterPos ∧ f'.resultLore = f.resultLore ∧
      f'.backTraversalPos = j + 1 ∧ f'.backTraversalStarted = true := by
  unfold meetBackIterator at e
  simp only [hs, Bool.not_true, Bool.false_eq_true, if_false, Res.bind_eq_ok, Res.pure_eq_ok, Prod.mk.injEq,
    subU32_eq_ok] at e
  obtain ⟨⟨i, d⟩, hc, pos, ⟨_, hpos⟩, ⟨j, d2⟩, hc2, k1, hk1, rfl, rfl⟩ := e
  obtain ⟨hb, hq⟩ := current_eff hc
  obtain ⟨hb2, hq2⟩ := current_eff hc2
  have hpos : pos = f.backTraversalPos - 1 := hpos
  have hb2 : pos = j + 1 := hb2
  obtain rfl : i = j + 1 := by omega
  have hq2 : f.queue[j]? = some d2 := by
    rw [← hq2]; exact (List.getElem?_set_ne (by omega)).symm
  exact ⟨j, d.ctor, d2.ctor, by omega, ctors_getElem? hq, ctors_getElem? hq2,
    (ctors_setCtor _ j _).trans (congrArg (List.set · j _) (ctors_setCtor f (j + 1) _)),
    applyFoldLore_trace hk1, rfl, rfl, hb2, hs⟩

theorem meetBackIterator_frame (e : f.meetBackIterator k = .ok (f', k')) :
    k'.resultTrace = k.resultTrace ∧ f'.inserterPos = f.inserterPos := by
  cases hs : f.backTraversalStarted with
  | false =>
    obtain ⟨_, _, _, _, _, ht, hip, _⟩ := meetBackIterator_first_eff hs e
    exact ⟨ht, hip⟩
  | true =>
    obtain ⟨_, _, _, _, _, _, _, ht, hip, _⟩ := meetBackIterator_next_eff hs e
    exact ⟨ht, hip⟩

theorem meetGenerationEnd_eff (e : f.meetGenerationEnd k = .ok f') :
    ∃ lore, (f.ctors.map fun c => c.finish k).mapM SubTraceLoreCtor.intoSubtraceLore = .ok lore ∧
      f'.resultLore = f.resultLore ++ lore ∧ f'.ctors = [] ∧ f'.backTraversalPos = 0 ∧
      f'.backTraversalStarted = false ∧ f'.inserterPos = f.inserterPos := by
  unfold meetGenerationEnd at e
  simp only [Res.bind_eq_ok, Res.pure_eq_ok] at e
  obtain ⟨lore, hl, rfl⟩ := e
  refine ⟨lore, ?_, rfl, rfl, rfl, rfl, rfl⟩
  rw [ctors, List.map_map]; exact hl

theorem meetFoldEnd_eff (e : f.meetFoldEnd k = .ok k') :
    k'.resultTrace = setAt k.resultTrace f.inserterPos (.fold f.resultLore) :=
  updateCtxStates_trace e

end FoldFSM

theorem fromFoldStart_eff {pf cf : ResolvedFold} {k k' : DataKeeper} {f : FoldFSM}
    (e : FoldFSM.fromFoldStart pf cf k = .ok (f, k')) :
    k'.resultTrace = k.resultTrace ++ [.par 0 0] ∧ f.inserterPos = k.resultTrace.length ∧ f.queue = [] ∧
      f.backTraversalPos = 0 ∧ f.backTraversalStarted = false ∧ f.resultLore = [] := by
  unfold FoldFSM.fromFoldStart at e
  simp only [Res.bind_eq_ok, Res.pure_eq_ok, Prod.mk.injEq] at e
  obtain ⟨_, _, _, _, rfl, rfl⟩ := e
  exact ⟨rfl, rfl, rfl, rfl, rfl, rfl⟩

variable {h h' : TraceHandler}

theorem fsm_of_foldStart {id : Nat} {f : FoldFSM}
    (hfm : h'.foldMap = (id, f) :: h.foldMap.filter (fun (i, _) => i != id)) (id' : Nat) :
    h'.fsm id' = if id' = id then some f else h.fsm id' := by
  rw [TraceHandler.fsm, hfm]
  by_cases h2 : id' = id
  · simp [lookupFsm, h2]
  · simp [lookupFsm, h2, Ne.symm h2, lookup_filter, TraceHandler.fsm]

theorem fsm_of_foldEnd {id : Nat}
    (hfm : h'.foldMap = h.foldMap.filter (fun (i, _) => i != id)) (id' : Nat) :
    h'.fsm id' = if id' = id then none else h.fsm id' := by
  rw [TraceHandler.fsm, hfm]; exact lookup_filter h.foldMap id id'

theorem meetFoldStart_eff {id : Nat} (e : h.meetFoldStart id = .ok h') :
    ∃ f, h'.tr = h.tr ++ [.par 0 0] ∧ h'.parStack = h.parStack ∧
      h'.foldMap = (id, f) :: h.foldMap.filter (fun (i, _) => i != id) ∧
      f.inserterPos = h.tr.length ∧ f.queue = [] ∧ f.backTraversalPos = 0 ∧ f.backTraversalStarted = false ∧
      f.resultLore = [] := by
  unfold TraceHandler.meetFoldStart at e
  simp only [Res.bind_eq_ok, Res.pure_eq_ok] at e
  obtain ⟨⟨pf, cf, k1⟩, hk1, ⟨f, k2⟩, hk2, rfl⟩ := e
  obtain ⟨ht, hi, hq⟩ := fromFoldStart_eff hk2
  have h1 : k1.resultTrace = h.tr := tryMergeNextStateAsFold_trace hk1
  rw [h1] at ht hi
  exact ⟨f, ht, rfl, rfl, hi, hq⟩

theorem meetIterationStart_eff {id vp : Nat} (e : h.meetIterationStart id vp = .ok h') :
    ∃ f f' k', h.fsm id = some f ∧ f.meetIterationStart vp h.keeper = .ok (f', k') ∧
      h' = ({ h with keeper := k' }).setFold id f' := by
  unfold TraceHandler.meetIterationStart at e
  simp only [Res.bind_eq_ok, Res.pure_eq_ok] at e
  obtain ⟨f, hf, ⟨f', k'⟩, hk, rfl⟩ := e
  exact ⟨f, f', k', foldMut_eq_ok.mp hf, hk, rfl⟩

theorem meetIterationEnd_eff {id : Nat} (e : h.meetIterationEnd id = .ok h') :
    ∃ f f', h.fsm id = some f ∧ f.meetIterationEnd h.keeper = .ok f' ∧ h' = h.setFold id f' := by
  unfold TraceHandler.meetIterationEnd at e
  simp only [Res.bind_eq_ok, Res.pure_eq_ok] at e
  obtain ⟨f, hf, f', hk, rfl⟩ := e
  exact ⟨f, f', foldMut_eq_ok.mp hf, hk, rfl⟩

theorem meetBackIterator_eff {id : Nat} (e : h.meetBackIterator id = .ok h') :
    ∃ f f' k', h.fsm id = some f ∧ f.meetBackIterator h.keeper = .ok (f', k') ∧
      h' = ({ h with keeper := k' }).setFold id f' := by
  unfold TraceHandler.meetBackIterator at e
  simp only [Res.bind_eq_ok, Res.pure_eq_ok] at e
  obtain ⟨f, hf, ⟨f', k'⟩, hk, rfl⟩ := e
  exact ⟨f, f', k', foldMut_eq_ok.mp hf, hk, rfl⟩

theorem meetGenerationEnd_eff {id : Nat} (e : h.meetGenerationEnd id = .ok h') :
    ∃ f f', h.fsm id = some f ∧ f.meetGenerationEnd h.keeper = .ok f' ∧ h' = h.setFold id f' := by
  unfold TraceHandler.meetGenerationEnd at e
  simp only [Res.bind_eq_ok, Res.pure_eq_ok] at e
  obtain ⟨f, hf, f', hk, rfl⟩ := e
  exact ⟨f, f', foldMut_eq_ok.mp hf, hk, rfl⟩

theorem meetFoldEnd_eff {id : Nat} (e : h.meetFoldEnd id = .ok h') :
    ∃ f, h.fsm id = some f ∧ h'.tr = setAt h.tr f.inserterPos (.fold f.resultLore) ∧
      h'.parStack = h.parStack ∧ h'.foldMap = h.foldMap.filter (fun (i, _) => i != id) := by
  unfold TraceHandler.meetFoldEnd at e
  simp only [Res.bind_eq_ok, Res.pure_eq_ok] at e
  obtain ⟨f, hf, k', hk, rfl⟩ := e
  exact ⟨f, foldMut_eq_ok.mp hf, FoldFSM.meetFoldEnd_eff hk, rfl, rfl⟩

theorem updateGeneration_eff {p g : Nat} (e : h.updateGeneration p g = .ok h') :
    h'.parStack = h.parStack ∧ h'.foldMap = h.foldMap ∧
      ((∃ gens, h.tr[p]? = some (.ap gens) ∧ h'.tr = setAt h.tr p (.ap [g])) ∨
       (∃ cid g0, h.tr[p]? = some (.call (.executed (.stream cid g0))) ∧
          h'.tr = setAt h.tr p (.call (.executed (.stream cid g))))) := by
  unfold TraceHandler.updateGeneration at e
  split at e
  · cases e
  · rename_i gens hp
    cases e; exact ⟨rfl, rfl, .inl ⟨gens, hp, rfl⟩⟩
  · rename_i cid g0 hp
    cases e; exact ⟨rfl, rfl, .inr ⟨cid, g0, hp, rfl⟩⟩
  · cases e

end Aqua.Trace
