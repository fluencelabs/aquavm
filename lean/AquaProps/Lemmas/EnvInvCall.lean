import AquaProps.Lemmas.EnvInvStep
import AquaProps.Lemmas.ExecRel
import AquaProps.Lemmas.UseSite
/-!
`Step env` for `call` (results produced locally, results arriving via merged data, requests), streams,
`canon`, stream folds, and the fuel induction over `exec`.
-/
namespace AquaProps
open Aqua Aqua.Exec Aqua.Air Aqua.Trace Aqua.Json Aqua.Data

theorem resolveServiceInfo_ok {env : Env} {s : CidState} {cid : Cid} {v : JVal} {t : Tetraplet} {agg : ServiceResultAgg}
    (h : resolveServiceInfo env s cid = .ok (v, t, agg)) :
    lookup s.serviceResults cid = some agg ∧ lookup s.tetraplets agg.tetrapletCid = some t ∧
    ∃ raw, lookup s.values agg.valueCid = some raw ∧ env.parseJson raw = some v := by
  unfold resolveServiceInfo at h
  split at h
  · cases h
  · rename_i agg' hagg
    split at h
    · cases h
    · rename_i raw hraw
      split at h
      · cases h
      · rename_i v' hv
        split at h
        · cases h
        · rename_i t' ht
          cases h
          exact ⟨hagg, ht, raw, hraw, hv⟩

theorem recorded_of_lookup {env : Env} {s : CidState} {k : Cid} {t : Tetraplet} (hk : Keyed env s) (h : lookup s.tetraplets k = some t) :
    Recorded env s t :=
  ⟨t, "", hk _ (lookup_mem h) ▸ mem_keys_of_mem (lookup_mem h), (addLens_empty t).symm⟩

/-- a value taken from the merged data is bound with the tetraplet of the consuming call, which `verify_call` has
compared with the one recorded in the tetraplet store -/
theorem verified_ok {env : Env} {s : CidState} {cid : Cid} {v : JVal} {t curT : Tetraplet} {agg : ServiceResultAgg} {ah : String}
    (pos : Nat) (hk : Keyed env s) (hr : resolveServiceInfo env s cid = .ok (v, curT, agg))
    (hv : verifyCall ah t agg.argumentHash curT = .ok ()) : AggP (PairOK env s) ⟨v, t, pos, .serviceResult cid⟩ := by
  obtain ⟨_, rfl⟩ := UseSite.verifyCall_ok hv
  exact Or.inr (recorded_of_lookup hk (resolveServiceInfo_ok hr).2.1)

structure OnlyStreams (c c' : Ctx) : Prop where
  cid : c'.cid = c.cid
  scalars : c'.scalars = c.scalars
  error : c'.error = c.error
  lastError : c'.lastError = c.lastError
  reqs : c'.callRequests = c.callRequests

theorem OnlyStreams.of_eq {c c' : Ctx} (h : ∃ st, c' = { c with streams := st }) : OnlyStreams c c' := by
  obtain ⟨st, rfl⟩ := h
  exact ⟨rfl, rfl, rfl, rfl, rfl⟩

variable {env : Env}

theorem step_onlyStreams {c c' : Ctx} (h : OnlyStreams c c') (hs : EnvInv env c → StreamsOK (PairOK env c.cid) c'.streams) : Step env c c' :=
  step_keep (fun hi => ⟨by rw [h.cid]; exact hi.keyed, by rw [h.cid, h.scalars]; exact hi.scalars, by rw [h.cid]; exact hs hi,
     by rw [h.cid, h.error]; exact hi.error, by rw [h.cid, h.lastError]; exact hi.lastError⟩) h.reqs (by rw [h.cid]; exact KeysGrow.refl _)

theorem step_addStreamValue {c c' : Ctx} {v : ValueAggregate} {name : String} {g : Generation} {pos : Nat}
    (hv : EnvInv env c → AggP (PairOK env c.cid) v) (h : c.addStreamValue v name g pos = .ok c') : Step env c c' :=
  step_onlyStreams (.of_eq (addStreamValue_eq_ok h)) fun hi => addStreamValue_ok hi.streams (hv hi) h

theorem step_setStream (c : Ctx) (name : String) (pos : Nat) (s : Stream) (hs : EnvInv env c → StreamOK (PairOK env c.cid) s) :
    Step env c (c.setStream name pos s) :=
  step_onlyStreams (.of_eq (setStream_eq c name pos s)) fun hi => setStream_ok name pos hi.streams (hs hi)

theorem step_recordCallCid (c : Ctx) (p cid : String) : Step env c (c.recordCallCid p cid) := by
  rw [recordCallCid_eq]; exact step_same

theorem step_populateFromPeerServiceResult {c c' : Ctx} {result : JVal} {t : Tetraplet} {ah : String} {pos : Nat}
    {out : CallOutput} {cr : CallResult}
    (h : populateFromPeerServiceResult env c result t ah pos out = .ok (cr, c')) : Step env c c' := by
  -- the result is tracked first: from then on it is recorded with the call's tetraplet
  have hg := step_grow (grows_trackServiceResult env c.cid result t ah)
  have hv : AggP (PairOK env (trackServiceResult env c.cid result t ah).2)
      ⟨result, t, pos, .serviceResult (trackServiceResult env c.cid result t ah).1⟩ :=
    Or.inr (recorded_trackServiceResult env c.cid result t ah)
  cases out with
  | none => cases h; exact step_refl c
  | scalar name =>
    simp only [populateFromPeerServiceResult] at h
    obtain ⟨sc, hs, h⟩ := Res.bind_eq_ok.mp h
    cases h
    exact step_preorder.trans hg (step_preorder.trans
      (step_scalars fun hi => setScalarValue_ok hi.scalars hv hs) (step_recordCallCid _ t.peerPk (trackServiceResult env c.cid result t ah).1))
  | stream n p =>
    simp only [populateFromPeerServiceResult] at h
    obtain ⟨c2, hs, h⟩ := Res.bind_eq_ok.mp h
    cases h
    exact step_preorder.trans hg (step_preorder.trans (step_addStreamValue (fun _ => hv) hs) (step_recordCallCid _ t.peerPk (trackServiceResult env c.cid result t ah).1))

theorem step_populateFromData {c c' : Ctx} {value : ValueRef} {ah : String} {t : Tetraplet} {pos : Nat} {out : CallOutput} {src : ValueSource}
    (h : populateFromData env c value ah t pos out src = .ok c') : Step env c c' := by
  unfold populateFromData at h
  split at h
  · obtain ⟨⟨v, curT, agg⟩, hr, h⟩ := Res.bind_eq_ok.mp h
    obtain ⟨_, hv, h⟩ := Res.bind_eq_ok.mp h
    obtain ⟨sc, hs, h⟩ := Res.bind_eq_ok.mp h
    cases h
    exact step_scalars fun hi => setScalarValue_ok hi.scalars (verified_ok pos hi.keyed hr hv) hs
  · obtain ⟨⟨v, curT, agg⟩, hr, h⟩ := Res.bind_eq_ok.mp h
    obtain ⟨_, hv, h⟩ := Res.bind_eq_ok.mp h
    exact step_addStreamValue (fun hi => verified_ok pos hi.keyed hr hv) h
  · cases h; exact step_refl c
  · cases h

theorem step_issueRequest (t : Tetraplet) (args : List Value) (c c' : Ctx) (h : issueRequest t args c = .ok c') : Step env c c' := by
  obtain ⟨vs, tss, hca, rfl⟩ := issueRequest_eq_ok h
  obtain ⟨hl, hl', hs⟩ := collectArgs_get c args vs tss hca
  refine fun hi => ⟨⟨hi.keyed, hi.scalars, hi.streams, hi.error, hi.lastError⟩, KeysGrow.refl _, [_], rfl, fun r hr => ?_⟩
  rw [List.mem_singleton.mp hr]
  exact ⟨c, args, hi, hl, hl', fun j a ts ha hts hcov =>
    let ⟨v, p, hr⟩ := hs j a ts ha hts
    resolve_spec c a v ts p hcov hr⟩

/-- the updates of `call`: a failed or delivered result is tracked in the CID stores before it is bound and its CID registered;
pushing a state and registering a CID touch nothing the invariant reads -/
theorem step_call : CallPrims env (Step env) where
  pre := step_preorder
  inc := step_flag false
  failedService := fun t ah sr c =>
    step_preorder.trans (step_grow (grows_trackServiceResult env c.cid _ t ah))
      (step_preorder.trans (step_recordCallCid _ t.peerPk (trackServiceResult env c.cid _ t ah).1) (step_th _ _))
  serviceResult := by
    intro result t ah out c c' h
    obtain ⟨⟨cr, c1⟩, hp, h⟩ := Res.bind_eq_ok.mp h
    cases h
    exact step_preorder.trans (step_populateFromPeerServiceResult hp) (step_th _ _)
  prevFailed := fun t cid c => step_preorder.trans (step_recordCallCid c t.peerPk cid) (step_th _ _)
  dropResult := fun _ _ => step_same
  prevExecutedBind := fun _ _ _ _ _ _ _ _ h => step_populateFromData h
  prevExecuted := by
    intro t value c
    cases value with
    | unused _ => exact step_th _ _
    | scalar cid | stream cid _ => exact step_preorder.trans (step_recordCallCid c t.peerPk cid) (step_th _ _)
  setErrors := step_callSetErrors
  thCallStart := fun _ _ _ _ => step_th _ _
  pushRequest := fun _ _ => step_th _ _
  issue := fun t args c c' _ h => step_issueRequest t args c c' h
  remote := fun _ _ _ => step_same

theorem applyToArgStream_ok {c : Ctx} (hi : EnvInv env c) {arg : Value} {va : ValueAggregate} (h : applyToArgStream c arg = .ok va) :
    AggP (PairOK env c.cid) va := by
  unfold applyToArgStream at h
  split at h
  · obtain ⟨v, ha, h⟩ := Res.bind_eq_ok'.mp h
    cases h
    exact (applyToArg_ok hi ha : AggP _ v)
  · exact applyToArg_ok hi h

/-- the value is read before `meet_ap_start` moves the trace: a guard carries "justified by the CID stores" over -/
theorem step_addAfterApStart (i : Instr) (va : ValueAggregate) (name : String) (pos : Nat) :
    GRel env (fun c => AggP (PairOK env c.cid) va)
      (liftTH i (fun th => th.meetApStart) >>= fun met =>
        modifyER (fun c => c.addStreamValue va name (generationOfAp met) pos) >>= fun _ =>
        modifyCtx fun c => { c with th := c.th.meetApEnd [generationStub] }) := by
  have hG : ∀ {c c' : Ctx}, KeysGrow c.cid c'.cid → AggP (PairOK env c.cid) va → AggP (PairOK env c'.cid) va :=
    fun g h => pairOK_mono g h
  apply grel_bind hG (grel_of_rel (rel_liftTH step_preorder _ _ step_th)); intro met
  apply grel_bind hG (fun c hv => rel_modifyER_at step_preorder c fun c' h => step_addStreamValue (fun _ => hv) h); intro _
  exact grel_of_rel (rel_modifyCtx fun c => step_th c _)

theorem step_execApStream (i : Instr) (arg : Value) (name : String) (pos : Nat) : Rel (Step env) (execApStream i arg name pos) := by
  unfold execApStream
  apply rel_bind_joinable_readER step_preorder (step_flag false)
  · exact rel_pure step_preorder _
  · exact fun c va h => step_of_guard (fun hi => applyToArgStream_ok hi h) (step_addAfterApStart i va name pos)

/-- `ap` into a stream map: the key-value object inherits tetraplet and provenance of the value -/
theorem step_execApMap (i : Instr) (key val : Value) (name : String) (pos : Nat) : Rel (Step env) (execApMap i key val name pos) := by
  unfold execApMap
  apply rel_bind_joinable_readER step_preorder (step_flag false)
  · exact rel_pure step_preorder _
  · intro c va h
    refine step_of_guard (G := fun c => AggP (PairOK env c.cid) va) (fun hi => applyToArgStream_ok hi h) ?_
    apply grel_bind (fun g h => pairOK_mono g h) (grel_of_rel (rel_joinable step_preorder (rel_readER step_preorder _) (step_flag false))); intro k
    split
    · exact grel_of_rel (rel_pure step_preorder _)
    · rename_i k
      exact fun c1 hv => step_addAfterApStart i _ name pos c1 (new_ok (pairOK_closed env _) _ _ hv)

theorem canonBind_ok {c : Ctx} {target : CanonTarget} {cs : CanonStream} {cid : Cid} {sc : Scalars}
    (hs : ScalarsOK (PairOK env c.cid) c.scalars) (hv : AllAgg (PairOK env c.cid) cs.values)
    (h : canonBind target cs cid c = .ok sc) : ScalarsOK (PairOK env c.cid) sc := by
  unfold canonBind at h
  split at h
  · exact setCanonValue_ok hs (show CanonOK (PairOK env c.cid) ⟨cs, cid⟩ from hv) h
  · obtain ⟨m, hm, h2⟩ := Res.bind_eq_ok.mp h
    have hm' : CanonMapOK (PairOK env c.cid) ⟨m, cid⟩ := by
      show AllAgg _ m.values
      rw [(fromCanonStream_eq_ok hm).1]; exact hv
    exact setCanonMapValue_ok hs hm' h2
  · split at h
    · cases h
    · exact setScalarValue_ok hs (show AggP (PairOK env c.cid) ⟨_, _, _, .canon cid⟩ from trivial) h

theorem step_canonFinish_at (c : Ctx) (name : CanonTarget) (cs : CanonStream) (cid : Cid) (reg : String)
    (hv : EnvInv env c → AllAgg (PairOK env c.cid) cs.values) : Step env c ((canonFinish name cs cid reg) c).2 := by
  refine rel_modifyER_at step_preorder c fun c' h => ?_
  obtain ⟨sc, hs, rfl⟩ := updCanonFinish_eq_ok h
  rw [recordCanonCid_eq]
  exact step_keep fun hi => { hi with scalars := canonBind_ok (c := c) hi.scalars (hv hi) hs }

/-- the snapshot a first canonicalisation takes: values of the stream store (the scalar form of a map canon: ONE literal value) -/
theorem canonProduce_ok {P : TP} (hP : LensClosed P) {c : Ctx} (hs : StreamsOK P c.streams) (target : CanonTarget)
    (stream : String) (pos : Nat) (peerId : String) : AllAgg P (canonProduce target c stream pos peerId).values := by
  have hsnap : AllAgg P (match c.getStream stream pos with | some s => s.all | none => []) := by
    split
    · rename_i s hg; exact stream_all_ok (getStream_ok hs hg)
    · exact allAgg_nil P
  cases target with
  | scalar n => exact fun v hv => List.mem_singleton.mp hv ▸ hP.nonService _ _ nofun
  | _ => exact hsnap

theorem step_createCanonFirstTime (name : CanonTarget) (stream : String) (pos : Nat) (peerId : String) :
    Rel (Step env) (createCanonFirstTime env name stream pos peerId) := by
  intro c
  refine rel_bind_pt step_preorder c (step_grow (grows_trackCanonResult env c.cid _)) fun r hr => ?_
  cases hr
  -- tracking did not touch the stream store
  exact step_canonFinish_at _ name _ _ peerId fun hi1 => canonProduce_ok (pairOK_closed env _) hi1.streams name stream pos peerId

theorem mapM_loop_ok {ε α β : Type} (f : α → Res ε β) : ∀ (as : List α) (bs vs : List β),
    List.mapM.loop f as bs = .ok vs → ∀ v ∈ vs, v ∈ bs ∨ ∃ x ∈ as, f x = .ok v
  | [], bs, vs, h, v, hv => by
    cases h
    exact Or.inl (List.mem_reverse.mp hv)
  | a :: as, bs, vs, h, v, hv => by
    obtain ⟨b, hf, h⟩ := Res.bind_eq_ok.mp h
    rcases mapM_loop_ok f as (b :: bs) vs h v hv with h1 | ⟨x, hx, h2⟩
    · rcases List.mem_cons.mp h1 with rfl | h3
      · exact Or.inr ⟨a, List.mem_cons_self, hf⟩
      · exact Or.inl h3
    · exact Or.inr ⟨x, List.mem_cons_of_mem _ hx, h2⟩

theorem mapM_ok {ε α β : Type} (f : α → Res ε β) (as : List α) (vs : List β) (h : as.mapM f = .ok vs) :
    ∀ v ∈ vs, ∃ x ∈ as, f x = .ok v :=
  fun v hv => (mapM_loop_ok f as [] vs h v hv).resolve_left (List.not_mem_nil)

theorem getCanonValueByCid_ok {s : CidState} {cid : Cid} {va : ValueAggregate} (hk : Keyed env s)
    (h : getCanonValueByCid env s cid = .ok va) : AggP (PairOK env s) va := by
  unfold getCanonValueByCid at h
  split at h
  · cases h
  · rename_i agg _
    obtain ⟨v, _, h⟩ := Res.bind_eq_ok.mp h
    obtain ⟨t, ht, h⟩ := Res.bind_eq_ok.mp h
    cases h
    unfold getTetrapletByCid at ht
    split at ht <;> cases ht
    rename_i hl
    refine new_ok (pairOK_closed env s) _ _ ?_
    cases agg.provenance with
    | serviceResult k => exact Or.inr (recorded_of_lookup hk hl)
    | _ => trivial

theorem step_canonExecuted (name : CanonTarget) (peer : Value) (cid : Cid) : Rel (Step env) (canonExecuted env name peer cid) := by
  unfold canonExecuted
  apply rel_bind_readER step_preorder
  intro c cs h
  refine step_canonFinish_at c name cs cid _ fun hi => ?_
  obtain ⟨peerId, _, h⟩ := Res.bind_eq_ok.mp h
  split at h
  · cases h
  · obtain ⟨t, _, h⟩ := Res.bind_eq_ok.mp h
    obtain ⟨_, _, h⟩ := Res.bind_eq_ok.mp h
    obtain ⟨values, hm, h⟩ := Res.bind_eq_ok.mp h
    cases h
    intro v hv
    obtain ⟨x, _, hx⟩ := mapM_ok _ _ _ hm v hv
    exact getCanonValueByCid_ok hi.keyed hx

theorem step_execCanon (i : Instr) (peer : Value) (stream : String) (pos : Nat) (name : CanonTarget) :
    Rel (Step env) (execCanon env i peer stream pos name) := by
  unfold execCanon
  apply rel_bind step_preorder (rel_liftTH step_preorder _ _ step_th); intro met
  split
  · exact step_canonExecuted _ _ _
  · apply rel_bind step_preorder (rel_readER step_preorder _); intro peerId
    apply rel_bind step_preorder (rel_readCtx step_preorder _); intro me
    split
    · exact rel_modifyCtx fun _ => step_same
    · exact step_createCanonFirstTime _ _ _ _
  · apply rel_bind step_preorder (rel_joinable step_preorder (rel_readER step_preorder _) (step_flag false)); intro r
    split
    · exact rel_pure step_preorder _
    · apply rel_bind step_preorder (rel_readCtx step_preorder _); intro me
      split
      · exact rel_modifyCtx fun _ => step_same
      · exact step_createCanonFirstTime _ _ _ _

theorem step_maybeTH (i : Instr) (fs : FoldState) (f : Nat → TraceHandler → TR TraceHandler) : Rel (Step env) (maybeTH i fs f) := by
  unfold maybeTH
  split
  · exact rel_liftTH' step_preorder _ _ step_th
  · exact rel_pure step_preorder _

theorem step_nextMarkBackIteration (iterator : String) : Rel (Step env) (nextMarkBackIteration iterator) := by
  refine rel_modifyER step_preorder fun c c' h => ?_
  obtain ⟨fs, hg, h⟩ := Res.bind_eq_ok'.mp h
  split at h
  · split at h <;> cases h
    · have hfs : EnvInv env c → IterOK (PairOK env c.cid) fs.iterable := fun hi => getIterable_ok hi.scalars hg
      exact step_keep fun hi =>
        { hi with scalars := setIterableState_ok (f := { fs with backIterationStarted := true }) iterator hi.scalars (hfs hi) }
    · exact step_refl _
  · cases h; exact step_refl _

theorem step_throwIfNotCatchable (res : Res ExecErr Unit) : Rel (Step env) (throwIfNotCatchable res) := by
  unfold throwIfNotCatchable
  split
  · exact rel_pure step_preorder _
  · exact rel_pure step_preorder _
  · exact rel_reraise step_preorder _

/-- a stream fold reads the stream (again after every round), lets the cursor produce the next slices, writes the stream
back and goes on with these slices: under the invariant the stream's values, hence the slices, are justified -/
theorem step_streamRound {β : Type} (stream : String) (pos : Nat) (met : Stream → Option (List (List ValueAggregate)) × StreamCursor × Stream)
    (hmet : ∀ {P : TP} {s : Stream}, StreamOK P s → StreamOK P (met s).2.2 ∧ ∀ l, (met s).1 = some l → SlicesOK P l)
    (k : Option (List (List ValueAggregate)) → StreamCursor → M β)
    (hk : ∀ st cur, GRel env (fun c => ∀ l, st = some l → SlicesOK (PairOK env c.cid) l) (k st cur)) :
    Rel (Step env) (foldStreamGet stream pos >>= fun s =>
      modifyCtx (fun c => c.setStream stream pos (met s).2.2) >>= fun _ => k (met s).1 (met s).2.1) := by
  unfold foldStreamGet
  apply rel_bind_readER step_preorder
  intro c s hs
  have hsome : c.getStream stream pos = some s := by
    split at hs <;> cases hs
    assumption
  exact step_bind_guard (G := fun c' => ∀ l, (met s).1 = some l → SlicesOK (PairOK env c'.cid) l)
    (fun g h l hl => slicesOK_mono (fun _ _ => pairOK_mono g) (h l hl)) c
    (fun hi => (hmet (getStream_ok hi.streams hsome)).2)
    (step_setStream c _ _ _ fun hi => (hmet (getStream_ok hi.streams hsome)).1)
    fun _ c1 hg => hk _ _ c1 hg

section body
variable (fuel : Nat) (ih : ∀ i, Rel (Step env) (exec env fuel i))
include ih

theorem step_execSubgraph (par sub : Instr) (t : SubgraphType) : Rel (Step env) (execSubgraph env fuel par sub t) := by
  unfold execSubgraph
  apply rel_bind step_preorder (rel_modifyCtx (step_flag _)); intro _
  apply rel_bind step_preorder (rel_tryM (ih sub)); intro res
  have hend : Rel (Step env) (liftTH' par fun th => th.meetParSubgraphEnd t) := rel_liftTH' step_preorder _ _ step_th
  split
  · exact rel_bind step_preorder hend fun _ => rel_bind step_preorder (rel_readCtx step_preorder _) fun _ => rel_pure step_preorder _
  · apply rel_bind step_preorder (rel_modifyCtx (step_flag _)); intro _
    exact rel_bind step_preorder hend fun _ => rel_bind step_preorder (rel_readCtx step_preorder _) fun _ => rel_pure step_preorder _
  · exact rel_bind step_preorder (rel_modifyCtx (step_flag _)) fun _ => rel_throwE step_preorder _
  · exact rel_panicM step_preorder _

/-- one `fold` per generation slice; the guard: the slices still to be iterated are justified by the current stores -/
theorem step_execFoldIterations (i : Instr) (iterator : String) (body : Instr) (last : Option Instr) (foldId : Nat) :
    ∀ (l : List (List ValueAggregate)) (acc : Bool),
      GRel env (fun c => SlicesOK (PairOK env c.cid) l) (execFoldIterations env fuel i iterator body last foldId l acc)
  | [], acc => by unfold execFoldIterations; exact grel_of_rel (rel_pure step_preorder _)
  | vals :: rest, acc => by
    have hG : ∀ {c c' : Ctx}, KeysGrow c.cid c'.cid → SlicesOK (PairOK env c.cid) (vals :: rest) → SlicesOK (PairOK env c'.cid) (vals :: rest) :=
      fun g => slicesOK_mono fun _ _ => pairOK_mono g
    have hrest : ∀ acc, GRel env (fun c => SlicesOK (PairOK env c.cid) (vals :: rest)) (execFoldIterations env fuel i iterator body last foldId rest acc) :=
      fun acc c hg => step_execFoldIterations i iterator body last foldId rest acc c fun g hgm => hg g (List.mem_cons_of_mem _ hgm)
    unfold execFoldIterations
    split
    · exact hrest acc
    · apply grel_bind hG (grel_of_rel (rel_liftTH' step_preorder _ _ step_th)); intro _
      apply grel_bind hG
      · exact fun c hg => rel_modifyER_at step_preorder c fun c' h => step_foldEnter h fun _ => hg _ List.mem_cons_self
      intro _
      apply grel_bind hG (grel_of_rel (rel_tryM (ih body))); intro res
      apply grel_bind hG (grel_of_rel (rel_modifyER step_preorder fun c c' h => step_foldLeave iterator h)); intro _
      apply grel_bind hG (grel_of_rel (step_throwIfNotCatchable res)); intro _
      apply grel_bind hG (grel_of_rel (rel_liftTH' step_preorder _ _ step_th)); intro _
      apply grel_bind hG (grel_of_rel (rel_readCtx step_preorder _)); intro complete
      exact hrest _

theorem step_execFoldStreamLoop (i : Instr) (stream : String) (pos : Nat) (iterator : String) (body : Instr) (last : Option Instr) (foldId : Nat) :
    ∀ (n : Nat) (st : Option (List (List ValueAggregate))) (cur : StreamCursor) (acc : Bool),
      GRel env (fun c => ∀ l, st = some l → SlicesOK (PairOK env c.cid) l)
        (execFoldStreamLoop env fuel n i stream pos iterator body last foldId st cur acc)
  | n, none, cur, acc => by unfold execFoldStreamLoop; exact grel_of_rel (rel_pure step_preorder _)
  | 0, some l, cur, acc => by unfold execFoldStreamLoop; exact grel_of_rel (rel_throwE step_preorder _)
  | n + 1, some l, cur, acc => by
    unfold execFoldStreamLoop
    intro c hg
    refine rel_bind_pt step_preorder c (step_execFoldIterations fuel ih i iterator body last foldId l acc c (hg l rfl)) fun acc' _ => ?_
    exact step_streamRound stream pos (metIterationEnd cur) (metIterationEnd_ok cur)
      (fun st' cur' => execFoldStreamLoop env fuel n i stream pos iterator body last foldId st' cur' acc')
      (fun st' cur' => step_execFoldStreamLoop i stream pos iterator body last foldId n st' cur' acc') _

theorem step_execInner (i : Instr) : Rel (Step env) (execInner env fuel i) := by
  have hsub := step_execSubgraph fuel ih
  unfold execInner
  split
  · exact rel_pure step_preorder _
  · exact rel_pure step_preorder _
  · exact rel_modifyCtx (step_flag _)
  · -- seq
    apply rel_bind step_preorder (rel_modifyCtx (step_flag _)); intro _
    apply rel_bind step_preorder (ih _); intro _
    apply rel_bind step_preorder (rel_readCtx step_preorder _); intro complete
    split
    · exact ih _
    · exact rel_pure step_preorder _
  · -- xor
    apply rel_bind step_preorder (rel_modifyCtx (step_flag _)); intro _
    apply rel_bind step_preorder (rel_tryM (ih _)); intro res
    split
    · apply rel_bind step_preorder (rel_modifyCtx (step_xorEnterRight _)); intro _
      apply rel_bind step_preorder (rel_tryM (ih _)); intro right
      exact rel_bind step_preorder (rel_modifyCtx (step_xorLeaveRight _)) fun _ => rel_reraise step_preorder _
    · exact rel_reraise step_preorder _
  · -- par
    apply rel_bind step_preorder (rel_liftTH' step_preorder _ _ step_th); intro _
    apply rel_bind step_preorder (hsub _ _ _); intro left
    apply rel_bind step_preorder (hsub _ _ _); intro right
    apply rel_bind step_preorder (rel_modifyCtx (step_flag _)); intro _
    split
    · exact rel_modifyCtx fun _ => step_same
    · exact rel_modifyCtx fun _ => step_same
    · exact rel_throwE step_preorder _
  -- match, mismatch
  iterate 2
    · apply rel_bind step_preorder (rel_joinable step_preorder (rel_readER step_preorder _) (step_flag false)); intro r
      split
      · exact rel_pure step_preorder _
      · exact ih _
      · exact rel_throwE step_preorder _
  · -- ap
    split
    · exact step_execApStream _ _ _ _
    · exact step_execAp _ _
  · exact step_execApMap _ _ _ _ _
  -- `canon` into a canon stream, a canon map, a scalar
  iterate 3 exact step_execCanon _ _ _ _ _
  · exact step_execFail _
  · -- fold over a scalar
    apply rel_bind_joinable_readER step_preorder (step_flag false)
    · exact rel_pure step_preorder _
    · intro c a hc
      cases a with
      | none => exact step_refl c
      | some itv =>
        refine rel_bind_pt step_preorder c (rel_modifyER_at step_preorder c fun c' h =>
          step_foldEnter h fun hi => createScalarIterable_ok hi hc) fun _ _ => ?_
        refine rel_bind step_preorder (rel_tryM (ih _)) (fun res => ?_) _
        exact rel_bind step_preorder (rel_modifyER step_preorder fun c c' h => step_foldLeave _ h) fun _ => rel_reraise step_preorder _
  · -- next
    apply rel_bind step_preorder (rel_readER step_preorder _); intro fs0
    apply rel_bind step_preorder (step_maybeTH _ _ _); intro _
    apply rel_bind step_preorder (rel_stateER step_preorder fun c a c' h => step_nextAdvance h); intro r
    split
    · apply rel_bind step_preorder (step_maybeTH _ _ _); intro _
      apply rel_bind step_preorder (rel_readER step_preorder _); intro fs
      split
      · exact rel_bind step_preorder (rel_modifyCtx (step_flag _)) fun _ => ih _
      · exact step_nextMarkBackIteration _
    · apply rel_bind step_preorder (rel_readER step_preorder _); intro item
      apply rel_bind step_preorder (step_maybeTH _ _ _); intro _
      apply rel_bind step_preorder (rel_tryM (ih _)); intro res
      apply rel_bind step_preorder (rel_modifyER step_preorder fun c c' h => step_nextAfter h); intro _
      split
      · exact rel_bind step_preorder (rel_modifyER step_preorder fun c c' h => step_nextBack h) fun _ => step_maybeTH _ _ _
      · exact rel_reraise step_preorder _
  · -- new
    split
    · exact rel_newScope step_preorder _
        (fun c => step_scalars fun hi => { hi.scalars with cells := meetNewStart_ok _ hi.scalars.cells })
        (ih _) fun c ok c' h => step_withScalarsRet h fun _ _ hi hs => by
          cases hs
          exact { hi.scalars with cells := meetNewEnd_ok _ hi.scalars.cells }
    -- `new $stream` and `new %map` act on the one stream store
    iterate 2
      · apply rel_bind step_preorder (rel_modifyCtx fun c =>
          step_onlyStreams (.of_eq (streamScopeStart_eq c _ _ _)) fun hi => scopeStart_ok _ _ _ hi.streams); intro _
        apply rel_bind step_preorder (rel_tryM (ih _)); intro res
        apply rel_bind step_preorder (rel_tryM (rel_modifyER step_preorder fun c c' h =>
          step_onlyStreams (by obtain ⟨_, _, _, _, _, _, _, rfl⟩ := streamScopeEnd_eq_ok h; exact ⟨rfl, rfl, rfl, rfl, rfl⟩)
            fun hi => scopeEnd_ok hi.streams h)); intro ep
        split
        · exact rel_pure step_preorder _
        · exact rel_reraise step_preorder _
        · exact rel_reraise step_preorder _
    · exact rel_newScope step_preorder _
        (fun c => step_scalars fun hi => { hi.scalars with canons := meetNewStart_ok _ hi.scalars.canons })
        (ih _) fun c ok c' h => step_withScalarsRet h fun _ _ hi hs => by
          cases hs
          exact { hi.scalars with canons := meetNewEnd_ok _ hi.scalars.canons }
    · exact rel_newScope step_preorder _
        (fun c => step_scalars fun hi => { hi.scalars with canonMaps := meetNewStart_ok _ hi.scalars.canonMaps })
        (ih _) fun c ok c' h => step_withScalarsRet h fun _ _ hi hs => by
          cases hs
          exact { hi.scalars with canonMaps := meetNewEnd_ok _ hi.scalars.canonMaps }
  -- `fold` over a stream and over a stream map: one body in the model
  iterate 2
    · rename_i stream pos iterator body last _
      apply rel_bind step_preorder (rel_readCtx step_preorder _); intro ex
      split
      · exact rel_modifyCtx (step_flag _)
      · apply rel_bind step_preorder (rel_stateER step_preorder fun c a c' h => by cases h; exact step_same); intro foldId
        apply rel_bind step_preorder (rel_liftTH' step_preorder _ _ step_th); intro _
        exact step_streamRound stream pos metFoldStart metFoldStart_ok
          (fun st cur => execFoldStreamLoop env fuel fuel _ stream pos iterator body last foldId st cur false >>= fun complete =>
            modifyCtx (fun c => { c with subgraphComplete := complete }) >>= fun _ => liftTH' _ (fun th => th.meetFoldEnd foldId))
          fun st cur => grel_bind (fun g h l hl => slicesOK_mono (fun _ _ => pairOK_mono g) (h l hl))
            (step_execFoldStreamLoop fuel ih _ stream pos iterator body last foldId fuel st cur false) fun complete =>
              grel_of_rel (rel_bind step_preorder (rel_modifyCtx (step_flag _)) fun _ =>
                rel_liftTH' step_preorder _ _ step_th)

end body

/-- The invariant and the request specification hold along every execution: for every fuel, script and
context, whether the execution succeeds, fails or panics. -/
theorem exec_step (env : Env) : ∀ (fuel : Nat) (i : Instr), Rel (Step env) (exec env fuel i)
  | 0, i => by unfold exec; exact rel_throwE step_preorder _
  | fuel + 1, i => by
    unfold exec
    split
    · exact ep_execCall step_call _ _ _ _ _ _
    · exact rel_onError step_preorder (step_execInner fuel (exec_step env fuel) i) (fun e c => step_setErrorsOf e i c)

end AquaProps
