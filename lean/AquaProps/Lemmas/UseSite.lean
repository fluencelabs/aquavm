import Aqua.Exec.Call
import Aqua.Exec.Exec
/-!
The checks a result taken from merged data passes before it enters the context, for ALL contexts:
`resolve_service_info` + `verify_call` (in `populate_context_from_data`) and `verify_canon` (in the
canon read).  Used by the use-site theorems of C14.
-/
namespace AquaProps.UseSite
open Aqua Aqua.Exec Aqua.Data Aqua.Air Aqua.Trace

theorem verifyCall_ok {eh : String} {et : Tetraplet} {sh : String} {st : Tetraplet} (h : verifyCall eh et sh st = .ok ()) : eh = sh ∧ et = st := by
  unfold verifyCall at h
  by_cases h1 : eh = sh
  · by_cases h2 : et = st
    · exact ⟨h1, h2⟩
    · simp [h1, h2, uncatchable] at h
  · simp [h1, uncatchable] at h

/-- the CID of an executed value that names a signed result -/
def resultCid : ValueRef → Option Cid
  | .scalar cid => some cid
  | .stream cid _ => some cid
  | .unused _ => none

theorem populateFromData_result {env : Env} {c c' : Ctx} {value : ValueRef} {cid : Cid} {ah : String} {t : Tetraplet} {pos : Nat}
    {out : CallOutput} {src : ValueSource} (hv : resultCid value = some cid)
    (h : populateFromData env c value ah t pos out src = .ok c') :
    ∃ v agg, resolveServiceInfo env c.cid cid = .ok (v, t, agg) ∧ ah = agg.argumentHash := by
  have key : ∀ {k : Json.JVal × Tetraplet × ServiceResultAgg → ER Ctx},
      (resolveServiceInfo env c.cid cid >>= fun r => verifyCall ah t r.2.2.argumentHash r.2.1 >>= fun _ => k r) = .ok c' →
      ∃ v agg, resolveServiceInfo env c.cid cid = .ok (v, t, agg) ∧ ah = agg.argumentHash := by
    intro k hk
    obtain ⟨⟨v, curT, agg⟩, hr, hk⟩ := Res.bind_eq_ok.mp hk
    obtain ⟨_, hvc, _⟩ := Res.bind_eq_ok.mp hk
    obtain ⟨h1, rfl⟩ := verifyCall_ok hvc
    exact ⟨v, agg, hr, h1⟩
  unfold populateFromData at h
  split at h
  · cases hv; exact key h
  · cases hv; exact key h
  · cases hv
  · cases h

theorem resolveServiceInfo_error {env : Env} {cs : CidState} {cid : Cid} {e : ExecErr}
    (h : resolveServiceInfo env cs cid = .error e) : ∃ u, e = .uncatchable u := by
  unfold resolveServiceInfo at h
  split at h
  · exact ⟨_, (Res.error.inj h).symm⟩
  split at h
  · exact ⟨_, (Res.error.inj h).symm⟩
  split at h
  · cases h
  split at h
  · exact ⟨_, (Res.error.inj h).symm⟩
  · cases h

theorem verifyCall_error {eh : String} {et : Tetraplet} {sh : String} {st : Tetraplet} {e : ExecErr}
    (h : verifyCall eh et sh st = .error e) : ∃ p x y, e = .uncatchable (.instructionParametersMismatch p x y) := by
  unfold verifyCall at h
  split at h
  · exact ⟨_, _, _, (Res.error.inj h).symm⟩
  split at h
  · exact ⟨_, _, _, (Res.error.inj h).symm⟩
  · cases h

theorem verifyCall_mismatch {eh : String} {et : Tetraplet} {sh : String} {st : Tetraplet} (hne : eh ≠ sh ∨ et ≠ st) :
    ∃ p x y, verifyCall eh et sh st = .error (.uncatchable (.instructionParametersMismatch p x y)) := by
  unfold verifyCall
  by_cases h1 : eh = sh
  · have h2 : et ≠ st := by rcases hne with h | h; exact absurd h1 h; exact h
    exact ⟨"call tetraplet", et.debug, st.debug, by simp [h1, h2, uncatchable]⟩
  · exact ⟨"call argument_hash", eh, sh, by simp [h1, uncatchable]⟩

theorem checkArgs_some {c : Ctx} {args : List Value} {vs : List Json.JVal} (h : checkArgs c args = .ok (some vs)) :
    ∃ tss, collectArgs c args = .ok (vs, tss) := by
  unfold checkArgs at h
  split at h
  · cases h; exact ⟨_, ‹_›⟩
  · split at h <;> cases h
  · cases h

theorem verifyCanon_ok {e s : Tetraplet} (h : verifyCanon e s = .ok ()) : e = s := by
  unfold verifyCanon at h
  by_cases h1 : e = s
  · exact h1
  · simp [h1, uncatchable] at h

theorem canonRead_ok {env : Env} {peer : Value} {cid : Cid} {c : Ctx} {cs : CanonStream}
    (h : canonRead env peer cid c = .ok cs) :
    ∃ peerId agg, resolveToString c peer = .ok peerId ∧ lookup c.cid.canonResults cid = some agg ∧
      getTetrapletByCid c.cid agg.tetraplet = .ok ({ peerPk := peerId } : Tetraplet) := by
  unfold canonRead at h
  obtain ⟨peerId, hp, h⟩ := Res.bind_eq_ok.mp h
  split at h
  · cases h
  · obtain ⟨t, ht, h⟩ := Res.bind_eq_ok.mp h
    obtain ⟨_, hv, _⟩ := Res.bind_eq_ok.mp h
    exact ⟨peerId, _, hp, ‹_›, verifyCanon_ok hv ▸ ht⟩

end AquaProps.UseSite
