import AquaProps.Lemmas.JsonValue
import AquaProps.Lemmas.JsonObj
/-! The invariant of the value parser, by induction on the fuel (`parseInv`): with the fuel `JVal.parseList`
supplies no call returns the out-of-fuel artefact (every call happens after a character has been consumed
within two calls), and whatever is accepted is a well-formed value (integers in range, floats canonical if
the oracle is, keys strictly sorted) nested less deep than the recursion limit. -/
namespace AquaProps.JsonLemmas
open Aqua.Json

/-- every float text the oracle produces is read back as itself (print ∘ parse is idempotent on `f64`) -/
def OracleCanonical (fo : FloatOracle) : Prop := ∀ p s e r, fo p s e = some r → FloatRT fo r

theorem wf_of_numVal {fo : FloatOracle} (hfo : OracleCanonical fo) {v : JVal} (h : NumVal fo v) :
    WF fo v ∧ vdepth v = 0 := by
  rcases h with ⟨i, rfl, h⟩ | ⟨p, s, e, r, hr, rfl⟩
  · exact ⟨h, rfl⟩
  · exact ⟨hfo p s e r hr, rfl⟩

theorem wfPairs_iff (fo : FloatOracle) (l : List (String × JVal)) : WFPairs fo l ↔ ∀ p ∈ l, WF fo p.2 := by
  induction l with
  | nil => simp [WFPairs]
  | cons p l ih => obtain ⟨k, v⟩ := p; simp [WFPairs, ih]

theorem vdepthPairs_le_iff (l : List (String × JVal)) (n : Nat) : vdepthPairs l ≤ n ↔ ∀ p ∈ l, vdepth p.2 ≤ n := by
  induction l with
  | nil => simp [vdepthPairs]
  | cons p l ih => obtain ⟨k, v⟩ := p; simp [vdepthPairs, Nat.max_le, ih]

theorem wf_mkObj (fo : FloatOracle) (kvs : List (String × JVal)) (hk : WFPairs fo kvs) :
    WF fo (JVal.mkObj kvs) ∧ vdepth (JVal.mkObj kvs) ≤ 1 + vdepthPairs kvs := by
  have hm : ∀ p ∈ kvs.foldl (fun acc (q : String × JVal) => insertSorted q.1 q.2 acc) [], p ∈ kvs :=
    fun p hp => (JsonObj.mem_foldl_insert kvs [] hp).resolve_left List.not_mem_nil
  refine ⟨⟨(wfPairs_iff fo _).mpr fun p hp => (wfPairs_iff fo kvs).mp hk p (hm p hp), ?_⟩, Nat.add_le_add_left
    ((vdepthPairs_le_iff _ _).mpr fun p hp => (vdepthPairs_le_iff kvs _).mp (Nat.le_refl _) p (hm p hp)) 1⟩
  exact List.pairwise_map.mpr (JsonObj.foldl_insert kvs [] List.Pairwise.nil).1

/-- entering a container uses up one level of `remaining_depth` -/
theorem depth_step {d n : Nat} (hd : 1 < d) (h : n < max (d - 1) 1) : 1 + n < max d 1 := by omega

/-- a result of `parseValue` on an input of `n` characters -/
abbrev ValueOK (fo : FloatOracle) (depth n : Nat) : PRes JVal → Prop :=
  Sat fun v rest => rest.length < n ∧ (OracleCanonical fo → WF fo v ∧ vdepth v < max depth 1)

abbrev ElemsOK (fo : FloatOracle) (depth n : Nat) : PRes (List JVal) → Prop :=
  Sat fun vs rest => rest.length ≤ n ∧ (OracleCanonical fo → WFList fo vs ∧ vdepthList vs < max depth 1)

abbrev MembersOK (fo : FloatOracle) (depth n : Nat) : PRes (List (String × JVal)) → Prop :=
  Sat fun kvs rest => rest.length ≤ n ∧ (OracleCanonical fo → WFPairs fo kvs ∧ vdepthPairs kvs < max depth 1)

/-- A round of a loop calls `parseValue` on an input no longer than its own and itself on a strictly shorter one, `parseValue`
calls a loop on a strictly shorter input: hence twice the length, and one unit more for the loops. -/
def ParseInv (fo : FloatOracle) (fuel : Nat) : Prop :=
  (∀ depth cs, 2 * cs.length + 2 ≤ fuel → ValueOK fo depth cs.length (parseValue fo fuel depth cs)) ∧
  (∀ depth first cs, 2 * cs.length + 3 ≤ fuel → ElemsOK fo depth cs.length (parseElems fo fuel depth first cs)) ∧
  (∀ depth first cs, 2 * cs.length + 3 ≤ fuel → MembersOK fo depth cs.length (parseMembers fo fuel depth first cs))

theorem parseInv_value (fo : FloatOracle) (f : Nat) (ih : ParseInv fo f) (depth : Nat) (cs : List Char)
    (hf : 2 * cs.length + 2 ≤ f + 1) : ValueOK fo depth cs.length (parseValue fo (f + 1) depth cs) := by
  cases h : skipWs cs with
  | nil => rw [parseValue_succ_eof fo f depth h]; exact sat_syntax
  | cons c r =>
    have hr := skipWs_cons_length h
    have hlit : ∀ es v, WF fo v → vdepth v = 0 → ValueOK fo depth cs.length (litTok es v r) := fun es v hw hd =>
      (sat_litTok es v r).mono fun v' rest ⟨hv, hl⟩ => ⟨by omega, fun _ => by subst hv; exact ⟨hw, by omega⟩⟩
    refine parseValue_succ_cases fo f depth h sat_syntax (sat_error (by decide))
      (fun es => hlit es _ trivial rfl) (fun es b => hlit es _ trivial rfl) ?_ ?_ ?_ ?_
    · exact Sat.mono (numSat_numTok fo c r) fun v rest ⟨hl, hv⟩ =>
        ⟨by omega, fun hfo => ⟨(wf_of_numVal hfo hv).1, by have := (wf_of_numVal hfo hv).2; omega⟩⟩
    · exact (sat_str r).andThen fun s r' hl => sat_ok ⟨by omega, fun _ => ⟨trivial, by simp only [vdepth]; omega⟩⟩
    · intro hd
      exact (ih.2.1 (depth - 1) true r (by omega)).andThen fun vs r' ⟨hl, hw⟩ => sat_expect fun r'' hl' =>
        sat_ok ⟨by omega, fun hfo => ⟨(hw hfo).1, depth_step hd (hw hfo).2⟩⟩
    · intro hd
      exact (ih.2.2 (depth - 1) true r (by omega)).andThen fun kvs r' ⟨hl, hw⟩ => sat_expect fun r'' hl' =>
        sat_ok ⟨by omega, fun hfo => ⟨(wf_mkObj fo kvs (hw hfo).1).1,
          Nat.lt_of_le_of_lt (wf_mkObj fo kvs (hw hfo).1).2 (depth_step hd (hw hfo).2)⟩⟩

theorem parseInv_elems (fo : FloatOracle) (f : Nat) (ih : ParseInv fo f) (depth : Nat) (first : Bool) (cs : List Char)
    (hf : 2 * cs.length + 3 ≤ f + 1) : ElemsOK fo depth cs.length (parseElems fo (f + 1) depth first cs) := by
  refine parseElems_succ_cases fo f depth first cs sat_syntax
    (fun rest hl => sat_ok ⟨hl, fun _ => ⟨trivial, by simp only [vdepthList]; omega⟩⟩) fun s hs => ?_
  exact (ih.1 depth s (by omega)).andThen fun v r ⟨hl, hw⟩ => (ih.2.1 depth false r (by omega)).andThen
    fun vs r' ⟨hl', hw'⟩ => sat_ok ⟨by omega, fun hfo => ⟨⟨(hw hfo).1, (hw' hfo).1⟩, Nat.max_lt.mpr ⟨(hw hfo).2, (hw' hfo).2⟩⟩⟩

theorem parseInv_members (fo : FloatOracle) (f : Nat) (ih : ParseInv fo f) (depth : Nat) (first : Bool) (cs : List Char)
    (hf : 2 * cs.length + 3 ≤ f + 1) : MembersOK fo depth cs.length (parseMembers fo (f + 1) depth first cs) := by
  refine parseMembers_succ_cases fo f depth first cs sat_syntax
    (fun rest hl => sat_ok ⟨hl, fun _ => ⟨trivial, by simp only [vdepthPairs]; omega⟩⟩) fun s hs => ?_
  exact (sat_str s).andThen fun k r hl => sat_expect fun r' hl' => (ih.1 depth r' (by omega)).andThen
    fun v r'' ⟨hl'', hw⟩ => (ih.2.2 depth false r'' (by omega)).andThen
    fun kvs r''' ⟨hl''', hw'⟩ => sat_ok ⟨by omega, fun hfo => ⟨⟨(hw hfo).1, (hw' hfo).1⟩, Nat.max_lt.mpr ⟨(hw hfo).2, (hw' hfo).2⟩⟩⟩

theorem parseInv (fo : FloatOracle) : ∀ fuel, ParseInv fo fuel
  | 0 => ⟨fun _ cs h => by omega, fun _ _ cs h => by omega, fun _ _ cs h => by omega⟩
  | f + 1 =>
    have ih := parseInv fo f
    ⟨parseInv_value fo f ih, parseInv_elems fo f ih, parseInv_members fo f ih⟩

/-- hence a rejection by the model is always a rejection for a reason serde_json has -/
theorem parseList_ne_fuel (fo : FloatOracle) (limit : Nat) (cs : List Char) : JVal.parseList fo limit cs ≠ .error .fuel := by
  have h := (parseInv fo (2 * cs.length + 8)).1 limit cs (by omega)
  fun_cases JVal.parseList fo limit cs
  · exact fun hc => h.1 (Except.error.inj hc ▸ ‹_›)
  · nofun
  · nofun

theorem parseList_wf (fo : FloatOracle) (hfo : OracleCanonical fo) (limit : Nat) (cs : List Char) (v : JVal)
    (h : JVal.parseList fo limit cs = .ok v) : WF fo v ∧ vdepth v < max limit 1 := by
  revert h
  fun_cases JVal.parseList fo limit cs <;> intro h <;> cases h
  exact (((parseInv fo (2 * cs.length + 8)).1 limit cs (by omega)).2 _ _ ‹_›).2 hfo

end AquaProps.JsonLemmas
