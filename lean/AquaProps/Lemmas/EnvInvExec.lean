import AquaProps.Lemmas.EnvInvStreams
import Aqua.Exec.Prov
/-!
`EnvInv` through the interpreter: the relation `Step env c c'` ("if the invariant holds before, it
holds after, the keys of the tetraplet store have only grown, and every call request added in between was
issued in a context satisfying the invariant with exactly the tetraplets the specification
`expectedTetraplets` prescribes") is a preorder, holds for every primitive of the execution monad and hence —
by induction on the fuel — for `exec`.

This file: the relation and its frame lemmas, and what the resolver hands out (specification and
justification by the data).
-/
namespace AquaProps
open Aqua Aqua.Exec Aqua.Air Aqua.Trace Aqua.Json Aqua.Data

def ErrOK (P : TP) (ie : InstructionError) : Prop :=
  match ie.tetraplet with
  | some t => P t ie.provenance
  | none => ∀ k, ie.provenance ≠ .serviceResult k

structure EnvInv (env : Env) (c : Ctx) : Prop where
  keyed : Keyed env c.cid
  scalars : ScalarsOK (PairOK env c.cid) c.scalars
  streams : StreamsOK (PairOK env c.cid) c.streams
  error : ErrOK (PairOK env c.cid) c.error.error
  lastError : ErrOK (PairOK env c.cid) c.lastError.error

/-- a call request whose tetraplets were computed in a context `c0` satisfying the invariant: one list per
argument, and where the property speaks unambiguously, the specified one -/
def ReqOK (env : Env) (r : CallRequest) : Prop :=
  ∃ (c0 : Ctx) (args : List Value), EnvInv env c0 ∧
    r.arguments.length = args.length ∧ r.tetraplets.length = args.length ∧
    ∀ (j : Nat) (a : Value) (ts : List Tetraplet), args[j]? = some a → r.tetraplets[j]? = some ts → Covered a = true →
      expectedTetraplets a (prov c0) = some ts

structure Good (env : Env) (c c' : Ctx) : Prop where
  inv : EnvInv env c'
  grow : KeysGrow c.cid c'.cid
  reqs : ∃ rs, c'.callRequests = c.callRequests ++ rs ∧ ∀ r ∈ rs, ReqOK env r.2

def Step (env : Env) (c c' : Ctx) : Prop := EnvInv env c → Good env c c'

@[simp] theorem rccn_scalars (c : Ctx) (p cid : String) : (c.recordCanonCid p cid).scalars = c.scalars := by
  rw [recordCanonCid_eq]
@[simp] theorem rccn_th (c : Ctx) (p cid : String) : (c.recordCanonCid p cid).th = c.th := by
  rw [recordCanonCid_eq]

theorem literal_eq (c : Ctx) : Tetraplet.literal c.initPeerId = (prov c).literal := rfl

variable {env : Env}

theorem step_preorder : Preorder' (Step env) where
  refl c h := ⟨h, KeysGrow.refl _, [], (List.append_nil _).symm, fun _ hr => absurd hr List.not_mem_nil⟩
  trans := by
    intro a b c hab hbc ha
    obtain ⟨hb, g1, rs1, e1, o1⟩ := hab ha
    obtain ⟨hc, g2, rs2, e2, o2⟩ := hbc hb
    exact ⟨hc, g1.trans g2, rs1 ++ rs2, by rw [e2, e1, List.append_assoc], fun r hr => (List.mem_append.mp hr).elim (o1 r) (o2 r)⟩

theorem step_refl (c : Ctx) : Step env c c := step_preorder.refl c

theorem step_keep {c c' : Ctx} (h : EnvInv env c → EnvInv env c') (hr : c'.callRequests = c.callRequests := by rfl)
    (hg : KeysGrow c.cid c'.cid := by exact KeysGrow.refl _) : Step env c c' :=
  fun hi => ⟨h hi, hg, [], by rw [hr, List.append_nil], fun _ hr => absurd hr List.not_mem_nil⟩

theorem step_same {c c' : Ctx} (h1 : c'.cid = c.cid := by rfl) (h2 : c'.scalars = c.scalars := by rfl)
    (h3 : c'.streams = c.streams := by rfl) (h4 : c'.error.error = c.error.error := by rfl)
    (h5 : c'.lastError.error = c.lastError.error := by rfl) (h6 : c'.callRequests = c.callRequests := by rfl) : Step env c c' :=
  step_keep (fun h => ⟨by rw [h1]; exact h.keyed, by rw [h1, h2]; exact h.scalars, by rw [h1, h3]; exact h.streams,
    by rw [h1, h4]; exact h.error, by rw [h1, h5]; exact h.lastError⟩) h6 (by rw [h1]; exact KeysGrow.refl _)

theorem step_th (c : Ctx) (th : TraceHandler) : Step env c { c with th := th } := step_same

theorem step_flag (b : Bool) (c : Ctx) : Step env c { c with subgraphComplete := b } := step_same

theorem errOK_mono {P Q : TP} (h : ∀ t p, P t p → Q t p) {ie : InstructionError} (hs : ErrOK P ie) : ErrOK Q ie := by
  rcases ie with ⟨e, _ | t, p, o⟩
  · exact hs
  · exact h _ _ hs

theorem step_grow {c : Ctx} {s : CidState} (g : Grows env c.cid s) : Step env c { c with cid := s } :=
  have m : ∀ t p, PairOK env c.cid t p → PairOK env s t p := fun _ _ => pairOK_mono g.1
  step_keep (fun h => ⟨g.2 h.keyed, scalarsOK_mono m h.scalars, streamsOK_mono m h.streams, errOK_mono m h.error,
    errOK_mono m h.lastError⟩) rfl g.1

/-- what the code does for a lens on `:error:` / `%last_error%`: the lens is NOT recorded -/
theorem resolveErrors_tetraplets {c : Ctx} {ie : InstructionError} {lens : Option Lambda} {v : JVal} {ts : List Tetraplet} {p : Provenance}
    (h : resolveErrors c ie lens = .ok (v, ts, p)) : ts = [ie.tetraplet.getD (Tetraplet.literal c.initPeerId)] ∧ p = ie.provenance := by
  unfold resolveErrors at h
  cases lens with
  | none =>
    cases h
    cases ie.tetraplet <;> exact ⟨rfl, rfl⟩
  | some l =>
    obtain ⟨_, _, h⟩ := Res.bind_eq_ok.mp h
    cases h
    cases ie.tetraplet <;> exact ⟨rfl, rfl⟩

theorem resolve_spec (c : Ctx) (arg : Value) (v : JVal) (ts : List Tetraplet) (p : Provenance)
    (hcov : Covered arg = true) (h : resolveValue c arg = .ok (v, ts, p)) : expectedTetraplets arg (prov c) = some ts := by
  cases arg with
  | initPeerId | literal _ | timestamp | ttl | number _ | float _ | boolean _ | emptyArray => cases h; rfl
  | scalar n =>
    obtain ⟨r, hg, h⟩ := Res.bind_eq_ok.mp h
    obtain ⟨⟨v', t', p'⟩, hp, h⟩ := Res.bind_eq_ok.mp h
    cases h
    simp [expectedTetraplets, prov, scalarTetraplet, hg, hp]
  | scalarWL n l =>
    cases l with
    | functorLength => cases hcov
    | path as =>
      obtain ⟨r, hg, h⟩ := Res.bind_eq_ok.mp h
      obtain ⟨⟨v', t', p'⟩, hp, h⟩ := Res.bind_eq_ok.mp h
      obtain ⟨sel, _, h⟩ := Res.bind_eq_ok.mp h
      cases h
      simp [expectedTetraplets, prov, scalarTetraplet, hg, hp, isFunctor, populateTetrapletWithLambda, withLens, Tetraplet.addLens]
  | error l | lastError l =>
    cases l with
    | some l => cases hcov
    | none =>
      simp only [resolveValue] at h
      obtain ⟨rfl, _⟩ := resolveErrors_tetraplets h
      rfl
  | canon n =>
    obtain ⟨cs, hg, h⟩ := Res.bind_eq_ok.mp h
    cases h
    simp [expectedTetraplets, prov, canonTetraplets, hg]
  | canonMap n =>
    obtain ⟨cm, hg, h⟩ := Res.bind_eq_ok.mp h
    cases h
    simp [expectedTetraplets, prov, canonMapTetraplets, hg]
  | canonWL n l | canonMapWL n l => cases hcov

theorem collectArgs_get (c : Ctx) : ∀ (args : List Value) (vs : List JVal) (tss : List (List Tetraplet)),
    collectArgs c args = .ok (vs, tss) → vs.length = args.length ∧ tss.length = args.length ∧
      ∀ (i : Nat) (a : Value) (ts : List Tetraplet), args[i]? = some a → tss[i]? = some ts → ∃ v p, resolveValue c a = .ok (v, ts, p)
  | [], vs, tss, h => by cases h; exact ⟨rfl, rfl, fun i a ts ha => by simp at ha⟩
  | a :: rest, vs, tss, h => by
    obtain ⟨⟨v, ts, p⟩, hr, h⟩ := Res.bind_eq_ok.mp h
    obtain ⟨⟨vs', tss'⟩, hc, h⟩ := Res.bind_eq_ok.mp h
    cases h
    obtain ⟨h1, h2, h3⟩ := collectArgs_get c rest vs' tss' hc
    refine ⟨congrArg (· + 1) h1, congrArg (· + 1) h2, fun i b ts' hb hts => ?_⟩
    cases i with
    | zero => cases Option.some.inj hb; cases Option.some.inj hts; exact ⟨v, p, hr⟩
    | succ j => exact h3 j b ts' hb hts

theorem errOK_literal {P : TP} (hP : LensClosed P) (v : JVal) (t : Option Tetraplet) (o : Option CatchableErr) :
    ErrOK P ⟨v, t, .literal, o⟩ := by
  cases t with
  | none => exact nofun
  | some t => exact hP.nonService _ _ nofun

theorem errOK_resolved {P : TP} (hP : LensClosed P) (c : Ctx) {ie : InstructionError} (h : ErrOK P ie) :
    P (ie.tetraplet.getD (Tetraplet.literal c.initPeerId)) ie.provenance := by
  rcases ie with ⟨e, _ | t, p, o⟩
  · exact hP.nonService _ _ h
  · exact h

theorem lensOfLambda_ok {α} {l : Lambda} {k : Lens.LambdaAST → ER α} {a : α} (h : lensOfLambda l k = .ok a) :
    ∃ lam, Lens.LambdaAST.ofLambda l = some lam ∧ k lam = .ok a := by
  unfold lensOfLambda at h
  split at h
  · rename_i lam hl; exact ⟨lam, hl, h⟩
  · cases h

/-- a canon stream under a lens: the tetraplet / provenance pair of the indexed element, or a pair with the canon's
provenance -/
theorem canonStreamApplyLambda_ok {P : TP} (hP : LensClosed P) {c : Ctx} {cs : CanonStream} {l : Lambda} {cid : Cid}
    {v : JVal} {t : Tetraplet} {p : Provenance} (hcs : AllAgg P cs.values)
    (h : canonStreamApplyLambda c cs l (.canon cid) = .ok (v, t, p)) : P t p := by
  obtain ⟨lam, _, h⟩ := lensOfLambda_ok h
  split at h
  · split at h
    · split at h <;> cases h
      rename_i va hva
      exact hcs va (List.mem_of_getElem? hva)
    · cases h
      exact hP.nonService _ _ nofun
  · cases h
  · cases h

theorem canonMapApplyLambda_prov {c : Ctx} {m : CanonStreamMapAgg} {l : Lambda} {p0 : Provenance}
    {v : JVal} {t : Tetraplet} {p : Provenance} (h : canonMapApplyLambda c m l p0 = .ok (v, t, p)) : p = p0 := by
  obtain ⟨lam, _, h⟩ := lensOfLambda_ok h
  split at h
  · obtain ⟨t', _, h⟩ := Res.bind_eq_ok'.mp h
    cases h; rfl
  · cases h
  · cases h

theorem resolve_ok {c : Ctx} (hi : EnvInv env c) {arg : Value} {v : JVal} {ts : List Tetraplet} {p : Provenance}
    (h : resolveValue c arg = .ok (v, ts, p)) : (∀ k, p ≠ .serviceResult k) ∨ ∃ t, ts = [t] ∧ PairOK env c.cid t p := by
  have hP := pairOK_closed env c.cid
  cases arg with
  | initPeerId | literal _ | timestamp | ttl | number _ | float _ | boolean _ | emptyArray => cases h; exact Or.inl nofun
  | scalar n =>
    obtain ⟨r, hg, h⟩ := Res.bind_eq_ok.mp h
    obtain ⟨⟨v', t', p'⟩, hp, h⟩ := Res.bind_eq_ok.mp h
    cases h
    exact Or.inr ⟨_, rfl, parts_ok hP (scalars_getValue_ok hi.scalars hg) hp⟩
  | scalarWL n l =>
    obtain ⟨r, hg, h⟩ := Res.bind_eq_ok.mp h
    obtain ⟨⟨v', t', p'⟩, hp, h⟩ := Res.bind_eq_ok.mp h
    obtain ⟨sel, _, h⟩ := Res.bind_eq_ok.mp h
    cases h
    exact Or.inr ⟨_, rfl, populate_ok hP l (parts_ok hP (scalars_getValue_ok hi.scalars hg) hp)⟩
  | error l =>
    obtain ⟨rfl, rfl⟩ := resolveErrors_tetraplets (ie := c.error.error) h
    exact Or.inr ⟨_, rfl, errOK_resolved hP c hi.error⟩
  | lastError l =>
    obtain ⟨rfl, rfl⟩ := resolveErrors_tetraplets (ie := c.lastError.error) h
    exact Or.inr ⟨_, rfl, errOK_resolved hP c hi.lastError⟩
  | canon n | canonMap n =>
    obtain ⟨cs, _, h⟩ := Res.bind_eq_ok.mp h
    cases h
    exact Or.inl nofun
  | canonWL n l =>
    obtain ⟨cs, hg, h⟩ := Res.bind_eq_ok.mp h
    obtain ⟨⟨v', t', p'⟩, hx, h⟩ := Res.bind_eq_ok.mp h
    cases h
    exact Or.inr ⟨_, rfl, canonStreamApplyLambda_ok hP (getCanonStream_ok hi.scalars hg) hx⟩
  | canonMapWL n l =>
    obtain ⟨cm, _, h⟩ := Res.bind_eq_ok.mp h
    obtain ⟨⟨v', t', p'⟩, hx, h⟩ := Res.bind_eq_ok.mp h
    cases h
    exact Or.inl (canonMapApplyLambda_prov hx ▸ nofun)

theorem mem_firstPairPerKey : ∀ (l : List ValueAggregate) (met : List Lens.StreamMapKey) (x : ValueAggregate),
    x ∈ firstPairPerKey l met → x ∈ l
  | [], met, x, h => by simp [firstPairPerKey] at h
  | va :: rest, met, x, h => by
    unfold firstPairPerKey at h
    split at h
    · split at h
      · exact List.mem_cons_of_mem _ (mem_firstPairPerKey rest _ x h)
      · rcases List.mem_cons.mp h with rfl | h1
        · exact List.mem_cons_self
        · exact List.mem_cons_of_mem _ (mem_firstPairPerKey rest _ x h1)
    · exact List.mem_cons_of_mem _ (mem_firstPairPerKey rest _ x h)

theorem mem_lastPairPerKey {l : List ValueAggregate} {x : ValueAggregate} (h : x ∈ lastPairPerKey l) : x ∈ l :=
  List.mem_reverse.mp (mem_firstPairPerKey _ _ x (List.mem_reverse.mp h))

end AquaProps
