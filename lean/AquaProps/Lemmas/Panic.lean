import Aqua.Exec.Run
import AquaProps.Lemmas.Rel
/-!
Panic logic (DESIGN.md §4.2 "panics are values", property C01).

`ResIn L r`  — if the result `r` is a panic, its site is in the list `L`.
`PIn L Q m`  — for every context: if `m` panics, the site is in `L`; if it returns a value, the value
               satisfies `Q` (needed because `tryM` hands a captured result to `reraise`).

`ResIn` commutes with the constructors and combinators of `Res` (the `@[simp]` equivalences below), so
`ResIn L (f x)` for a model function `f` is proved by `simp [f, …]` naming the lemmas of the functions `f`
calls; a `match` on a computed value is opened with `split` first.  What is left for a hand-written step is
what is particular to `f`: a panic site of its own, or the argument why one is not reached.
The lemmas for `M` follow the combinators of `Aqua/Exec/Monad.lean` one by one.
-/
namespace AquaProps.Panic
open Aqua Aqua.Exec Aqua.Air Aqua.Trace

variable {ε ε' α β : Type} {L : List String}

def ResIn (L : List String) (r : Res ε α) : Prop := ∀ s, r = .panic s → s ∈ L

@[simp] theorem resIn_ok (a : α) : ResIn L (.ok a : Res ε α) := nofun
@[simp] theorem resIn_error (e : ε) : ResIn L (.error e : Res ε α) := nofun
@[simp] theorem resIn_pure (a : α) : ResIn L (pure a : Res ε α) := nofun
@[simp] theorem resIn_panic_iff {s : String} : ResIn L (.panic s : Res ε α) ↔ s ∈ L := by simp [ResIn]
theorem resIn_panic {s : String} (h : s ∈ L) : ResIn L (.panic s : Res ε α) := resIn_panic_iff.2 h

/-- the arm `| .panic s => .panic s` of a `match` on `r`, as `split` leaves it -/
theorem ResIn.of_eq {r : Res ε α} (hr : ResIn L r) {s : String} (h : r = .panic s) : ResIn L (.panic s : Res ε' β) :=
  resIn_panic (hr s h)

/-- "never panics", for the functions whose lemma holds for every `L` -/
theorem ResIn.ne_panic {r : Res ε α} (h : ResIn [] r) (s : String) : r ≠ .panic s := fun e => List.not_mem_nil (h s e)

@[simp] theorem resIn_bind_iff {x : Res ε α} {f : α → Res ε β} :
    ResIn L (x >>= f) ↔ ResIn L x ∧ ∀ a, x = .ok a → ResIn L (f a) := by
  cases x <;> simp [ResIn]

@[simp] theorem resIn_rbind_iff {x : Res ε α} {f : α → Res ε β} :
    ResIn L (x.bind f) ↔ ResIn L x ∧ ∀ a, x = .ok a → ResIn L (f a) := resIn_bind_iff

@[simp] theorem resIn_mapErr_iff {x : Res ε α} (f : ε → ε') : ResIn L (x.mapErr f) ↔ ResIn L x := by
  cases x <;> simp [ResIn, Res.mapErr]

@[simp] theorem resIn_ite {c : Prop} [Decidable c] {x y : Res ε α} :
    ResIn L (if c then x else y) ↔ (c → ResIn L x) ∧ (¬c → ResIn L y) := by
  split <;> simp [*]

theorem resIn_mono {L' : List String} {x : Res ε α} (h : ∀ s ∈ L, s ∈ L') (hx : ResIn L x) : ResIn L' x :=
  fun s hs => h s (hx s hs)

theorem resIn_unwrap {site : String} (h : site ∈ L) (o : Option α) : ResIn L (Res.unwrap site o : Res ε α) := by
  cases o <;> simp [Res.unwrap, h]

@[simp] theorem resIn_ofOption (e : ε) (o : Option α) : ResIn L (Res.ofOption e o) := by
  cases o <;> simp [Res.ofOption]

theorem resIn_addU32 {site : String} (h : site ∈ L) (a b : Nat) : ResIn L (addU32 site a b : Res ε Nat) := by
  simp [addU32, h]

theorem resIn_subU32 {site : String} (h : site ∈ L) (a b : Nat) : ResIn L (subU32 site a b : Res ε Nat) := by
  simp [subU32, h]

theorem resIn_mapM {f : α → Res ε β} (hf : ∀ a, ResIn L (f a)) (l : List α) : ResIn L (l.mapM f) := by
  suffices ∀ acc, ResIn L (List.mapM.loop f l acc) from this []
  induction l with
  | nil => simp [List.mapM.loop]
  | cons a l ih => simp [List.mapM.loop, hf, ih]

def PIn (L : List String) (Q : α → Prop) (m : M α) : Prop :=
  ∀ c, (∀ s, (m c).1 = .panic s → s ∈ L) ∧ (∀ a, (m c).1 = .ok a → Q a)

abbrev PIn' (L : List String) (m : M α) : Prop := PIn L (fun _ => True) m

theorem pin_weaken {Q Q' : α → Prop} {m : M α} (h : PIn L Q m) (hq : ∀ a, Q a → Q' a) : PIn L Q' m :=
  fun c => ⟨(h c).1, fun a ha => hq a ((h c).2 a ha)⟩

theorem pin_true {Q : α → Prop} {m : M α} (h : PIn L Q m) : PIn' L m := pin_weaken h fun _ _ => trivial

theorem pin_of_resIn {m : M α} (h : ∀ c, ResIn L (m c).1) : PIn' L m := fun c => ⟨h c, fun _ _ => trivial⟩

theorem pin_pure {Q : α → Prop} (a : α) (h : Q a) : PIn L Q (pure a : M α) :=
  fun _ => ⟨nofun, fun _ h' => by cases h'; exact h⟩

@[simp] theorem pin_pure' (a : α) : PIn' L (pure a : M α) := pin_pure a trivial

theorem pin_bind {Q : α → Prop} {Q' : β → Prop} {m : M α} {f : α → M β} (hm : PIn L Q m)
    (hf : ∀ a, Q a → PIn L Q' (f a)) : PIn L Q' (m >>= f) := by
  intro c
  have h1 := hm c
  rw [bind_apply]
  generalize m c = r at h1
  rcases r with ⟨_ | _ | _, c'⟩
  · exact hf _ (h1.2 _ rfl) c'
  · exact ⟨nofun, nofun⟩
  · exact ⟨fun _ h => by cases h; exact h1.1 _ rfl, nofun⟩

theorem pin_bind' {Q : α → Prop} {Q' : β → Prop} {m : M α} {f : α → M β} (hm : PIn L Q m)
    (hf : ∀ a, PIn L Q' (f a)) : PIn L Q' (m >>= f) := pin_bind hm fun a _ => hf a

theorem pin_readER {f : Ctx → ER α} (h : ∀ c, ResIn L (f c)) : PIn' L (readER f) := pin_of_resIn h
@[simp] theorem pin_readCtx (f : Ctx → α) : PIn' L (readCtx f) := pin_of_resIn fun _ => nofun
@[simp] theorem pin_modifyCtx (f : Ctx → Ctx) : PIn' L (modifyCtx f) := pin_of_resIn fun _ => nofun
@[simp] theorem pin_throwE {Q : α → Prop} (e : ExecErr) : PIn L Q (throwE e : M α) := fun _ => ⟨nofun, nofun⟩
theorem pin_panicM {Q : α → Prop} {s : String} (h : s ∈ L) : PIn L Q (panicM s : M α) :=
  fun _ => ⟨resIn_panic h, nofun⟩

theorem pin_modifyER {f : Ctx → ER Ctx} (h : ∀ c, ResIn L (f c)) : PIn' L (modifyER f) :=
  pin_of_resIn fun c => by
    unfold modifyER
    split
    · exact resIn_ok _
    · exact resIn_error _
    · exact (h c).of_eq ‹_›

theorem pin_stateER {f : Ctx → ER (α × Ctx)} (h : ∀ c, ResIn L (f c)) : PIn' L (stateER f) :=
  pin_of_resIn fun c => by
    unfold stateER
    split
    · exact resIn_ok _
    · exact resIn_error _
    · exact (h c).of_eq ‹_›

theorem pin_tryM {Q : α → Prop} {m : M α} (hm : PIn L Q m) : PIn L (ResIn L) (tryM m) :=
  fun c => ⟨nofun, fun _ h => by cases h; exact (hm c).1⟩

theorem pin_reraise {r : Res ExecErr α} (h : ResIn L r) : PIn' L (reraise r) := pin_of_resIn fun _ => h

theorem pin_joinable {Q : α → Prop} {m : M α} (hm : PIn L Q m) : PIn' L (joinable m) :=
  pin_of_resIn fun c => by
    unfold joinable
    split
    · exact resIn_ok _
    · split
      · exact resIn_ok _
      · exact resIn_error _
    · exact resIn_panic ((hm c).1 _ (congrArg Prod.fst ‹_›))

theorem pin_onError {Q : α → Prop} {m : M α} (f : ExecErr → Ctx → Ctx) (hm : PIn L Q m) : PIn L Q (onError m f) := by
  intro c
  unfold onError
  split
  · exact ⟨nofun, nofun⟩
  · exact hm c

theorem pin_liftTH {f : TraceHandler → TR (α × TraceHandler)} (i : Instr) (h : ∀ th, ResIn L (f th)) : PIn' L (liftTH i f) :=
  pin_stateER fun c => by simp [traceToExec, h]

theorem pin_liftTH' {f : TraceHandler → TR TraceHandler} (i : Instr) (h : ∀ th, ResIn L (f th)) : PIn' L (liftTH' i f) :=
  pin_liftTH i fun th => by simp [h]

@[simp] theorem pin_makeSubgraphIncomplete : PIn' L makeSubgraphIncomplete := pin_modifyCtx _
@[simp] theorem pin_meetCallEnd (cr : Data.CallResult) : PIn' L (meetCallEnd cr) := pin_modifyCtx _

end AquaProps.Panic
