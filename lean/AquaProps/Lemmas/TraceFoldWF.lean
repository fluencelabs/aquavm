import AquaProps.Lemmas.TraceFoldTile
import AquaProps.Lemmas.TraceEff
/-!
Fold lore tiling for a whole fold driven with the executor's call discipline (C10).
-/
namespace Aqua.Trace
open Aqua Aqua.Data

/-- an operation of another fold / a par / a push: allowed while an iteration runs -/
def foldStepOther : Phase → Option Phase
  | .fwd => some .fwd
  | .back => some .back
  | _ => none

def foldStepOwn (ph : Phase) : HOp → Option Phase
  | .iterStart _ _ => (match ph with | .idle => some .fwd | .closed => some .fwd | _ => none)
  | .iterEnd _ => (match ph with | .fwd => some .closed | _ => none)
  | .backIter _ => (match ph with | .idle => none | _ => some .back)
  | .genEnd _ => (match ph with | .idle => none | _ => some .idle)
  | _ => none

/-- The call discipline of one stream fold (`fold_stream/stream_execute_helpers.rs`, `next.rs`): between
batches nothing happens; a batch is `meet_iteration_start`, then per iteration arbitrary other operations,
`meet_iteration_end` directly followed by the next `meet_iteration_start` or the first
`meet_back_iterator`; back traversal steps with `meet_back_iterator`; `meet_generation_end` may come at any
point of a batch (early exit).  `none` = the sequence leaves the discipline. -/
def foldStep (id : Nat) (ph : Phase) (op : HOp) : Option Phase :=
  if op.mentions id then foldStepOwn ph op else foldStepOther ph

/-- the log of one fold: the closed batches and the running one, each a list of
`(value_pos, result-trace length at meet_iteration_start)` -/
abbrev FoldLog := List (List (Nat × Nat)) × List (Nat × Nat)

def logStep (id : Nat) (op : HOp) (h : TraceHandler) (lg : FoldLog) : FoldLog :=
  match op with
  | .iterStart i vp => if i = id then (lg.1, lg.2 ++ [(vp, h.tr.length)]) else lg
  | .genEnd i => if i = id then (lg.1 ++ [lg.2], []) else lg
  | _ => lg

def runFold (id : Nat) : Phase → List HOp → TraceHandler → FoldLog → Option (Phase × TraceHandler × FoldLog)
  | ph, [], h, lg => some (ph, h, lg)
  | ph, op :: rest, h, lg =>
    match foldStep id ph op, op.apply h with
    | some ph', some h' => runFold id ph' rest h' (logStep id op h lg)
    | _, _ => none

theorem runFold_cons {id : Nat} {ph ph' : Phase} {op : HOp} {rest : List HOp} {h h' : TraceHandler} {lg lg'}
    (e : runFold id ph (op :: rest) h lg = some (ph', h', lg')) :
    ∃ ph1 h1, foldStep id ph op = some ph1 ∧ op.apply h = some h1 ∧
      runFold id ph1 rest h1 (logStep id op h lg) = some (ph', h', lg') := by
  simp only [runFold] at e
  split at e
  · rename_i ph1 h1 hs ha
    exact ⟨ph1, h1, hs, ha, e⟩
  · simp at e

theorem runFold_runOps {id : Nat} {ph ph' : Phase} {ops : List HOp} {h h' : TraceHandler} {lg lg'}
    (e : runFold id ph ops h lg = some (ph', h', lg')) : runOps ops h = some h' := by
  induction ops generalizing ph h lg with
  | nil => simp only [runFold, Option.some.injEq, Prod.mk.injEq] at e; simp [runOps, e.2.1]
  | cons op rest ih =>
    obtain ⟨ph1, h1, _, ha, e1⟩ := runFold_cons e
    simp [runOps, ha, ih e1]

theorem runFold_length_le {id : Nat} {ph ph' : Phase} {ops : List HOp} {h h' : TraceHandler} {lg lg'}
    (e : runFold id ph ops h lg = some (ph', h', lg')) : h.tr.length ≤ h'.tr.length :=
  length_le_of_runOps (runFold_runOps e)

/-- the lore is a sequence of non-empty batches, each laid out `B₁ … B_k A_k … A₁`, contiguous from `c` to `e` -/
inductive BatchesTile : Nat → List (List FoldSubTraceLore) → Nat → Prop
  | nil (c : Nat) : BatchesTile c [] c
  | batch (c m e : Nat) (lore : List FoldSubTraceLore) (its : List Iter) (rest : List (List FoldSubTraceLore)) :
      lore.mapM loreIter = some its → its ≠ [] → batchEnd c its = some m → BatchesTile m rest e →
      BatchesTile c (lore :: rest) e

theorem BatchesTile.snoc {c m e : Nat} {l : List (List FoldSubTraceLore)} {lore : List FoldSubTraceLore}
    {its : List Iter} (h : BatchesTile c l m)
    (h1 : lore.mapM loreIter = some its) (h2 : its ≠ []) (h3 : batchEnd m its = some e) :
    BatchesTile c (l ++ [lore]) e := by
  induction h with
  | nil c => exact .batch c e e lore its [] h1 h2 h3 (.nil e)
  | batch c m' e' lore' its' rest a b d _ ih => exact .batch c m' e lore' its' (rest ++ [lore]) a b d (ih h3)

/-- the invariant of the FSM of one fold (reserved position `F`) at result-trace length `n`: the running batch has
the shape of its phase, the closed batches `lbs` tile `[F + 1, c0)`, and both are the ones the log `lg` records -/
def FsmInv (F : Nat) (ph : Phase) (n : Nat) (f : FoldFSM) (lg : FoldLog) : Prop :=
  ∃ c0 lbs, f.inserterPos = F ∧ ShapeOf ph c0 n f ∧ f.resultLore = lbs.flatten ∧ BatchesTile (F + 1) lbs c0 ∧
    lbs.map (List.map loreKey) = lg.1 ∧ f.ctors.map ctorKey = lg.2

def FInv (id F : Nat) (ph : Phase) (h : TraceHandler) (lg : FoldLog) : Prop :=
  ∃ f, h.fsm id = some f ∧ FsmInv F ph h.tr.length f lg

theorem keys_set {cs : List Ctor} {i : Nat} {c c' : Ctor} (hi : cs[i]? = some c) (hk : ctorKey c' = ctorKey c) :
    (cs.set i c').map ctorKey = cs.map ctorKey := by
  rw [List.map_set, hk]
  exact set_eq_self_of_getElem?_eq_some (by simp [List.getElem?_map, hi])

theorem ctorKey_maybeBeforeEnd (c : Ctor) (k : DataKeeper) : ctorKey ((c.maybeBeforeEnd k).afterStart' k) = ctorKey c := by
  unfold SubTraceLoreCtor.maybeBeforeEnd
  split <;> rfl

namespace FsmInv
variable {F n : Nat} {ph ph' : Phase} {f f' : FoldFSM} {k k' : DataKeeper} {lg : FoldLog} {id vp : Nat}

theorem other {n' : Nat} (hstep : foldStepOther ph = some ph') (hn : n ≤ n') (inv : FsmInv F ph n f lg) :
    FsmInv F ph' n' f lg := by
  obtain ⟨c0, lbs, hip, sh, rest⟩ := inv
  cases ph <;> cases hstep
  · exact ⟨c0, lbs, hip, sh.mono_fwd hn, rest⟩
  · exact ⟨c0, lbs, hip, sh.mono_back hn, rest⟩

theorem iterStart (hstep : foldStepOwn ph (.iterStart id vp) = some ph')
    (inv : FsmInv F ph k.resultTrace.length f lg) (e : f.meetIterationStart vp k = .ok (f', k')) :
    FsmInv F ph' k'.resultTrace.length f' (lg.1, lg.2 ++ [(vp, k.resultTrace.length)]) := by
  obtain ⟨c0, lbs, hip, sh, hL, hT, hK1, hK2⟩ := inv
  obtain ⟨ht, hip', hrl, hc', _, _⟩ := FoldFSM.meetIterationStart_eff e
  refine ⟨c0, lbs, hip'.trans hip, ?_, hrl.trans hL, hT, hK1, by rw [hc', List.map_append, hK2]; rfl⟩
  rw [ht]
  cases ph <;> cases hstep
  · exact shape_iterStart_idle sh e
  · exact shape_iterStart_closed sh e

theorem iterEnd (hstep : foldStepOwn ph (.iterEnd id) = some ph')
    (inv : FsmInv F ph k.resultTrace.length f lg) (e : f.meetIterationEnd k = .ok f') :
    FsmInv F ph' k.resultTrace.length f' lg := by
  obtain ⟨c0, lbs, hip, sh, hL, hT, hK1, hK2⟩ := inv
  obtain ⟨j, c, _, hcj, hc', hip', hrl, _, _⟩ := FoldFSM.meetIterationEnd_eff e
  cases ph <;> cases hstep
  exact ⟨c0, lbs, hip'.trans hip, shape_iterEnd sh e, hrl.trans hL, hT, hK1,
    by rw [hc', keys_set (c' := c.beforeEnd' k) hcj rfl, hK2]⟩

theorem backIter (hstep : foldStepOwn ph (.backIter id) = some ph')
    (inv : FsmInv F ph k.resultTrace.length f lg) (e : f.meetBackIterator k = .ok (f', k')) :
    FsmInv F ph' k'.resultTrace.length f' lg := by
  obtain ⟨c0, lbs, hip, sh, hL, hT, hK1, hK2⟩ := inv
  obtain ⟨ht, hip'⟩ := FoldFSM.meetBackIterator_frame e
  have keep : f'.resultLore = f.resultLore ∧ f'.ctors.map ctorKey = f.ctors.map ctorKey := by
    cases hst : f.backTraversalStarted with
    | false =>
      obtain ⟨j, c, _, hcj, hc', _, _, hrl, _⟩ := FoldFSM.meetBackIterator_first_eff hst e
      exact ⟨hrl, by rw [hc', keys_set hcj (ctorKey_maybeBeforeEnd c k)]⟩
    | true =>
      obtain ⟨j, c, c2, _, hcj1, hcj, hc', _, _, hrl, _⟩ := FoldFSM.meetBackIterator_next_eff hst e
      have h1 : (f.ctors.set (j + 1) (c.afterEnd' k))[j]? = some c2 := by
        rw [List.getElem?_set_ne (by omega)]; exact hcj
      exact ⟨hrl, by rw [hc', keys_set (c' := c2.afterStart' k) h1 rfl, keys_set (c' := c.afterEnd' k) hcj1 rfl]⟩
  refine ⟨c0, lbs, hip'.trans hip, ?_, keep.1.trans hL, hT, hK1, keep.2.trans hK2⟩
  rw [ht]
  cases ph <;> cases hstep
  · exact shape_backIter_fwd sh e
  · exact shape_backIter_fwd sh e
  · exact shape_backIter_back sh e

theorem genEnd (hstep : foldStepOwn ph (.genEnd id) = some ph') (hb : k.resultTrace.length ≤ u32Max)
    (inv : FsmInv F ph k.resultTrace.length f lg) (e : f.meetGenerationEnd k = .ok f') :
    FsmInv F ph' k.resultTrace.length f' (lg.1 ++ [lg.2], []) := by
  obtain ⟨c0, lbs, hip, sh, hL, hT, hK1, hK2⟩ := inv
  have hph : ph ≠ .idle := fun hh => by subst hh; cases hstep
  obtain rfl : ph' = .idle := by cases ph <;> cases hstep <;> rfl
  obtain ⟨lore, its, hrl, hits, hne, hbe, hkey, shI, hip'⟩ := shape_genEnd hph hb sh e
  exact ⟨_, lbs ++ [lore], hip'.trans hip, shI, by rw [hrl, hL]; simp, hT.snoc hits hne hbe,
    by rw [List.map_append, hK1, List.map_cons, List.map_nil, hkey, hK2], by rw [shI.1]; rfl⟩

end FsmInv

theorem finv_step {id F : Nat} {ph ph' : Phase} {op : HOp} {h h' : TraceHandler} {lg : FoldLog}
    (hstep : foldStep id ph op = some ph') (ha : op.apply h = some h') (hb : h'.tr.length ≤ u32Max)
    (inv : FInv id F ph h lg) : FInv id F ph' h' (logStep id op h lg) := by
  obtain ⟨f, hf, inv⟩ := inv
  unfold foldStep at hstep
  split at hstep
  next hm =>
    -- an operation of this fold: its FSM makes the step, the trace is as long as before
    have own : ∀ {i : Nat}, (i == id) = true → i = id := fun hi => by simpa using hi
    cases op with
    | iterStart i vp =>
      obtain rfl := own hm
      obtain ⟨f0, f', k', hf0, hk, rfl⟩ := meetIterationStart_eff (resOk_eq_some.mp ha)
      cases hf.symm.trans hf0
      refine ⟨f', (fsm_setFold_of_some (h := { h with keeper := k' }) hf f' i).trans (if_pos rfl), ?_⟩
      rw [show logStep i (.iterStart i vp) h lg = (lg.1, lg.2 ++ [(vp, h.tr.length)]) from if_pos rfl]
      exact inv.iterStart hstep hk
    | iterEnd i =>
      obtain rfl := own hm
      obtain ⟨f0, f', hf0, hk, rfl⟩ := meetIterationEnd_eff (resOk_eq_some.mp ha)
      cases hf.symm.trans hf0
      exact ⟨f', (fsm_setFold_of_some hf f' i).trans (if_pos rfl), inv.iterEnd hstep hk⟩
    | backIter i =>
      obtain rfl := own hm
      obtain ⟨f0, f', k', hf0, hk, rfl⟩ := meetBackIterator_eff (resOk_eq_some.mp ha)
      cases hf.symm.trans hf0
      exact ⟨f', (fsm_setFold_of_some (h := { h with keeper := k' }) hf f' i).trans (if_pos rfl),
        inv.backIter hstep hk⟩
    | genEnd i =>
      obtain rfl := own hm
      obtain ⟨f0, f', hf0, hk, rfl⟩ := meetGenerationEnd_eff (resOk_eq_some.mp ha)
      cases hf.symm.trans hf0
      refine ⟨f', (fsm_setFold_of_some hf f' i).trans (if_pos rfl), ?_⟩
      rw [show logStep i (.genEnd i) h lg = (lg.1 ++ [lg.2], []) from if_pos rfl]
      exact inv.genEnd hstep hb hk
    | foldStart i => cases hstep
    | foldEnd i => cases hstep
    | _ => cases hm
  next hm =>
    have hm : op.mentions id = false := by simpa using hm
    have hkey : logStep id op h lg = lg := by
      cases op with
      | iterStart i vp => exact if_neg (by simpa [HOp.mentions] using hm)
      | genEnd i => exact if_neg (by simpa [HOp.mentions] using hm)
      | _ => rfl
    rw [hkey]
    exact ⟨f, (fsm_neutral hm ha).trans hf, inv.other hstep (length_le_of_apply ha)⟩

theorem finv_run {id F : Nat} {ph ph' : Phase} {ops : List HOp} {h h' : TraceHandler} {lg lg' : FoldLog}
    (e : runFold id ph ops h lg = some (ph', h', lg')) (hb : h'.tr.length ≤ u32Max) (inv : FInv id F ph h lg) :
    FInv id F ph' h' lg' := by
  induction ops generalizing ph h lg with
  | nil =>
    simp only [runFold, Option.some.injEq, Prod.mk.injEq] at e
    obtain ⟨rfl, rfl, rfl⟩ := e
    exact inv
  | cons op rest ih =>
    obtain ⟨ph1, h1, hs, ha, e1⟩ := runFold_cons e
    have hb1 : h1.tr.length ≤ u32Max := Nat.le_trans (runFold_length_le e1) hb
    exact ih e1 (finv_step hs ha hb1 inv)

/-- `meet_fold_start id`, then a body that follows the call discipline (`runFold … idle`
ends `idle`), then `meet_fold_end id`: the reserved position holds `Fold(lore)`, the lore is a sequence of
non-empty batches (one per `meet_generation_end`) laid out contiguously from the position after the fold entry
to the end of the trace (no gap, no overlap), and entry `i` of a batch carries the value position passed to the
`i`-th `meet_iteration_start` of that batch with its before-part beginning at the result-trace length at that
call. -/
theorem fold_block {id : Nat} {h0 h1 h2 h3 : TraceHandler} {body : List HOp} {lg : FoldLog}
    (e1 : h0.meetFoldStart id = .ok h1) (e2 : runFold id .idle body h1 ([], []) = some (.idle, h2, lg))
    (e3 : h2.meetFoldEnd id = .ok h3) (hb : h3.tr.length ≤ u32Max) :
    ∃ lbs, h3.tr[h0.tr.length]? = some (.fold lbs.flatten) ∧ BatchesTile (h0.tr.length + 1) lbs h3.tr.length ∧
      lbs.map (List.map loreKey) = lg.1 ∧ lg.2 = [] ∧ h3.tr.length = h2.tr.length ∧
      h1.tr = h0.tr ++ [.par 0 0] := by
  obtain ⟨f, ht1, _, hfm1, hip, hq, hbt, hst, hrl⟩ := meetFoldStart_eff e1
  have hlen1 : h1.tr.length = h0.tr.length + 1 := by rw [ht1, List.length_append]; rfl
  have hc1 : f.ctors = [] := by rw [FoldFSM.ctors, hq]; rfl
  have inv1 : FInv id h0.tr.length .idle h1 ([], []) :=
    ⟨f, (fsm_of_foldStart hfm1 id).trans (if_pos rfl), _, [], hip, ⟨hc1, hbt, hst, hlen1.symm⟩, hrl, .nil _, rfl,
      congrArg (List.map ctorKey) hc1⟩
  obtain ⟨f3, hf3, ht3, _, _⟩ := meetFoldEnd_eff e3
  have hlen3 : h3.tr.length = h2.tr.length := by rw [ht3]; exact List.length_set
  obtain ⟨f2, hf2, c0, lbs, hip2, ⟨hc, _, _, hc0⟩, hL, hT, hK1, hK2⟩ := finv_run e2 (hlen3 ▸ hb) inv1
  cases hf2.symm.trans hf3
  have hlt : h0.tr.length < h2.tr.length := Nat.lt_of_lt_of_le (by omega) (runFold_length_le e2)
  refine ⟨lbs, ?_, hlen3 ▸ hc0 ▸ hT, hK1, ?_, hlen3, ht1⟩
  · rw [ht3, hip2, hL]; exact List.getElem?_set_self hlt
  · rw [← hK2, hc]; rfl

end Aqua.Trace
