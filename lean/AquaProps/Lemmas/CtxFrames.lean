import Aqua.Exec.Exec
import AquaProps.Lemmas.Assoc
/-!
The context updates of the executor model, one by one: the updates the interpreter performs, named
(`upd…`), what each of them equals (`…_eq`, `…_eq_ok`) and which fields it leaves alone (`SameData`,
`SameButStreams`).  The invariants of the executor (`ExecRel.lean`, `EnvInv*.lean`) are discharged from these.

The model (`Aqua/Exec/Call.lean`, `Exec.lean`) writes these updates as anonymous functions handed to `modifyCtx` /
`modifyER`; each `upd…` here has the same body, so that the walk in `ExecRel.lean` meets it by unfolding alone.  A
change of the model's update shows up as a walk lemma that no longer type-checks against the named update.
-/
namespace AquaProps
open Aqua Aqua.Exec Aqua.Air Aqua.Trace Aqua.Json Aqua.Data

/-- everything except the control fields (`scalars`, `lastError`, `error`, `subgraphComplete`) is unchanged -/
structure SameData (c c' : Ctx) : Prop where
  next : c'.nextPeerPks = c.nextPeerPks
  init : c'.initPeerId = c.initPeerId
  me : c'.currentPeerId = c.currentPeerId
  ts : c'.timestamp = c.timestamp
  ttl : c'.ttl = c.ttl
  lcid : c'.lastCallRequestId = c.lastCallRequestId
  results : c'.callResults = c.callResults
  reqs : c'.callRequests = c.callRequests
  cid : c'.cid = c.cid
  peerCids : c'.peerCids = c.peerCids
  th : c'.th = c.th
  streams : c'.streams = c.streams
  foldCount : c'.foldStreamCount = c.foldStreamCount

/-- only the stream store (and control fields) changed -/
structure SameButStreams (c c' : Ctx) : Prop where
  next : c'.nextPeerPks = c.nextPeerPks
  init : c'.initPeerId = c.initPeerId
  me : c'.currentPeerId = c.currentPeerId
  ts : c'.timestamp = c.timestamp
  ttl : c'.ttl = c.ttl
  lcid : c'.lastCallRequestId = c.lastCallRequestId
  results : c'.callResults = c.callResults
  reqs : c'.callRequests = c.callRequests
  cid : c'.cid = c.cid
  peerCids : c'.peerCids = c.peerCids
  th : c'.th = c.th
  foldCount : c'.foldStreamCount = c.foldStreamCount

/-- failing service: track the failure value, register the id, push `Failed` -/
def updFailedService (env : Env) (t : Tetraplet) (argHash : String) (sr : CallServiceResult) (c : Ctx) : Ctx :=
  let failed := callServiceFailedValue sr.retCode sr.result
  let (cid, cs) := trackServiceResult env c.cid failed t argHash
  let c := ({ c with cid := cs }).recordCallCid t.peerPk cid
  { c with th := c.th.meetCallEnd (.failed cid) }

/-- successful service result: bind the value, push `Executed` -/
def updServiceResult (env : Env) (result : JVal) (t : Tetraplet) (argHash : String) (out : CallOutput) (c : Ctx) : ER Ctx := do
  let (cr, c') ← populateFromPeerServiceResult env c result t argHash c.th.tracePos out
  pure { c' with th := c'.th.meetCallEnd cr }

/-- a `Failed` state found in the merged data is re-emitted (`st` is that state, always `.failed failedCid`: kept a
parameter because the walk rewrites with the equation that names it) -/
def updPrevFailed (t : Tetraplet) (failedCid : Cid) (st : CallResult) (c : Ctx) : Ctx :=
  let c := c.recordCallCid t.peerPk failedCid
  { c with th := c.th.meetCallEnd st }

def updDropResult (key : String) (c : Ctx) : Ctx :=
  { c with callResults := c.callResults.filter (fun (k, _) => k != key) }

/-- an `Executed` state found in the merged data is re-emitted after its value was bound -/
def updPrevExecuted (t : Tetraplet) (value : ValueRef) (c : Ctx) : Ctx :=
  let c := match value with
    | .scalar cid | .stream cid _ => c.recordCallCid t.peerPk cid
    | .unused _ => c
  { c with th := c.th.meetCallEnd (.executed value) }

def updRemoteCall (t : Tetraplet) (c : Ctx) : Ctx :=
  { c with nextPeerPks := c.nextPeerPks ++ [t.peerPk], subgraphComplete := false,
           th := c.th.meetCallEnd (.requestSentBy (.peerId c.currentPeerId)) }

/-- first canonicalisation at the designated peer: snapshot and tracking in the CID stores -/
def updCanonTrack (env : Env) (target : CanonTarget) (stream : String) (streamPos : Nat) (peerId : String) (c : Ctx) : (CanonStream × Cid) × Ctx :=
  let cs : CanonStream := canonProduce target c stream streamPos peerId
  let (cid, st) := trackCanonResult env c.cid cs
  ((cs, cid), { c with cid := st })

/-- registering the canon id, binding the canon stream / canon map / scalar and pushing `Executed(cid)` -/
def updCanonFinish (target : CanonTarget) (cs : CanonStream) (cid : Cid) (registerFor : String) (c : Ctx) : ER Ctx := do
  let sc ← canonBind target cs cid c
  let c := c.recordCanonCid registerFor cid
  pure { c with scalars := sc, th := c.th.meetCanonEnd (.executed cid) }

theorem recordCallCid_eq (c : Ctx) (p cid : String) :
    c.recordCallCid p cid = { c with peerCids := c.peerCids ++ if p == c.currentPeerId then [cid] else [] } := by
  unfold Ctx.recordCallCid
  split <;> simp

theorem recordCanonCid_eq (c : Ctx) (p cid : String) :
    c.recordCanonCid p cid = { c with peerCids := c.peerCids ++ if p == c.currentPeerId then [cid] else [] } :=
  recordCallCid_eq c p cid

theorem SameData.upd (c : Ctx) (sc : Scalars) (le e : ErrDescriptor) (sg : Bool) :
    SameData c { c with scalars := sc, lastError := le, error := e, subgraphComplete := sg } :=
  ⟨rfl, rfl, rfl, rfl, rfl, rfl, rfl, rfl, rfl, rfl, rfl, rfl, rfl⟩

theorem SameData.rfl' (c : Ctx) : SameData c c := .upd c _ _ _ _

theorem SameButStreams.upd (c : Ctx) (sc : Scalars) (le e : ErrDescriptor) (sg : Bool) (st : List (String × List StreamDesc)) :
    SameButStreams c { c with scalars := sc, lastError := le, error := e, subgraphComplete := sg, streams := st } :=
  ⟨rfl, rfl, rfl, rfl, rfl, rfl, rfl, rfl, rfl, rfl, rfl, rfl⟩

theorem SameData.sameButStreams {c c' : Ctx} (h : SameData c c') : SameButStreams c c' :=
  ⟨h.next, h.init, h.me, h.ts, h.ttl, h.lcid, h.results, h.reqs, h.cid, h.peerCids, h.th, h.foldCount⟩

theorem sameData_withScalars {c c' : Ctx} {g : Scalars → ER Scalars} (h : withScalars c g = .ok c') : SameData c c' := by
  obtain ⟨sc, _, h⟩ := Res.bind_eq_ok'.mp h
  cases h; exact .upd c _ _ _ _

theorem sameData_withScalarsRet {α} {c c' : Ctx} {a : α} {g : Scalars → ER (α × Scalars)} (h : withScalarsRet c g = .ok (a, c')) :
    SameData c c' := by
  obtain ⟨⟨a', sc⟩, _, h⟩ := Res.bind_eq_ok'.mp h
  cases h; exact .upd c _ _ _ _

theorem sameData_xorLeaveRight (b : Bool) (c : Ctx) : SameData c (xorLeaveRight b c) := by
  unfold xorLeaveRight
  split <;> split <;> exact .upd c _ _ _ _

theorem setErrorsOf_cases {Q : Ctx → Prop} (e : ExecErr) (i : Instr) (c : Ctx) (h0 : Q c)
    (h1 : ∀ ce s t b, Q (c.setErrors ce s t b)) : Q (c.setErrorsOf e i) := by
  unfold Ctx.setErrorsOf
  split
  · exact h1 ..
  · exact h0

theorem callSetErrors_cases {Q : Ctx → Prop} (i : Instr) (t : Option Tetraplet) (e : ExecErr) (c : Ctx) (h0 : Q c)
    (h1 : ∀ ce s t b, Q (c.setErrors ce s t b)) : Q (callSetErrors i t e c) := by
  unfold callSetErrors
  split
  · split
    · exact h0
    · exact h1 ..
  · exact h0

theorem sameData_setErrorsOf (e : ExecErr) (i : Instr) (c : Ctx) : SameData c (c.setErrorsOf e i) :=
  setErrorsOf_cases e i c (.rfl' c) fun _ _ _ _ => .upd c _ _ _ _

theorem sameData_callSetErrors (i : Instr) (t : Option Tetraplet) (e : ExecErr) (c : Ctx) : SameData c (callSetErrors i t e c) :=
  callSetErrors_cases i t e c (.rfl' c) fun _ _ _ _ => .upd c _ _ _ _

theorem setStream_eq (c : Ctx) (name : String) (pos : Nat) (s : Stream) : ∃ st, c.setStream name pos s = { c with streams := st } := by
  unfold Ctx.setStream
  split
  · exact ⟨_, rfl⟩
  · split <;> exact ⟨_, rfl⟩

theorem streamScopeStart_eq (c : Ctx) (name : String) (l r : Nat) : ∃ st, c.streamScopeStart name l r = { c with streams := st } := by
  unfold Ctx.streamScopeStart
  split <;> exact ⟨_, rfl⟩

theorem addStreamValue_eq_ok {c c' : Ctx} {v : ValueAggregate} {name : String} {g : Generation} {pos : Nat}
    (h : c.addStreamValue v name g pos = .ok c') : ∃ st, c' = { c with streams := st } := by
  unfold Ctx.addStreamValue at h
  split at h <;> obtain ⟨s', _, h⟩ := Res.bind_eq_ok.mp h <;> cases h
  · exact setStream_eq c name pos s'
  · exact ⟨_, rfl⟩

theorem SameButStreams.of_eq {c c' : Ctx} (h : ∃ st, c' = { c with streams := st }) : SameButStreams c c' := by
  obtain ⟨st, rfl⟩ := h
  exact .upd c _ _ _ _ st

theorem sameButStreams_addStreamValue {c c' : Ctx} {v : ValueAggregate} {name : String} {g : Generation} {pos : Nat}
    (h : c.addStreamValue v name g pos = .ok c') : SameButStreams c c' := .of_eq (addStreamValue_eq_ok h)

theorem sameButStreams_populateFromData {env : Env} {c c' : Ctx} {value : ValueRef} {ah : String} {t : Tetraplet} {pos : Nat}
    {out : CallOutput} {src : ValueSource} (h : populateFromData env c value ah t pos out src = .ok c') : SameButStreams c c' := by
  unfold populateFromData at h
  split at h
  · simp only [Res.bind_eq_ok, Res.pure_eq_ok] at h
    obtain ⟨_, _, _, _, sc, _, h⟩ := h
    cases h; exact .upd c _ _ _ _ _
  · simp only [Res.bind_eq_ok] at h
    obtain ⟨_, _, _, _, h⟩ := h
    exact sameButStreams_addStreamValue h
  · cases h; exact .upd c _ _ _ _ _
  · cases h

/-- the only place where the model creates a call request -/
theorem issueRequest_eq_ok {t : Tetraplet} {args : List Value} {c c' : Ctx} (h : issueRequest t args c = .ok c') :
    ∃ vs tss, collectArgs c args = .ok (vs, tss) ∧ c' = { c with
      lastCallRequestId := c.lastCallRequestId + 1,
      callRequests := c.callRequests ++ [(c.lastCallRequestId + 1, ⟨t.serviceId, t.functionName, vs, tss, t.peerPk⟩)],
      subgraphComplete := false,
      th := c.th.meetCallEnd (.requestSentBy (.peerIdWithCallId c.currentPeerId (c.lastCallRequestId + 1))) } := by
  unfold issueRequest at h
  split at h
  · rename_i hca
    split at h <;> cases h
    exact ⟨_, _, hca, rfl⟩
  · cases h
  · cases h

theorem streamScopeEnd_eq_ok {c c' : Ctx} {name : String} (h : c.streamScopeEnd name = .ok c') :
    ∃ ds last s' th', lookup c.streams name = some ds ∧ ds.getLast? = some last ∧ last.stream.compactify c.th = .ok (s', th') ∧
      c' = { c with th := th', streams := if ds.dropLast.isEmpty then c.streams.filter (fun (k, _) => k != name)
                                            else upsert c.streams name ds.dropLast } := by
  unfold Ctx.streamScopeEnd at h
  split at h
  · cases h
  · rename_i ds hl
    split at h
    · cases h
    · rename_i last hlast
      split at h <;> cases h
      exact ⟨ds, last, _, _, hl, hlast, ‹_›, rfl⟩

theorem compactifyStreams_eq_ok {c c' : Ctx} (h : c.compactifyStreams = .ok c') :
    ∃ ss th, Ctx.compactifyStreams.all c.streams c.th = .ok (ss, th) ∧ c' = { c with streams := ss, th := th } := by
  unfold Ctx.compactifyStreams at h
  split at h
  · cases h; exact ⟨_, _, ‹_›, rfl⟩
  · cases h
  · cases h

theorem updServiceResult_eq_ok {env : Env} {result : JVal} {t : Tetraplet} {ah : String} {out : CallOutput} {c c' : Ctx}
    (h : updServiceResult env result t ah out c = .ok c') :
    (∃ cid, c' = { c with th := c.th.meetCallEnd (.executed (.unused cid)) }) ∨
    ∃ cid cs c0 cr, trackServiceResult env c.cid result t ah = (cid, cs) ∧ SameButStreams { c with cid := cs } c0 ∧
      cr.getCid = some cid ∧
      c' = { c0.recordCallCid t.peerPk cid with th := (c0.recordCallCid t.peerPk cid).th.meetCallEnd cr } := by
  obtain ⟨⟨cr, c1⟩, h1, h⟩ := Res.bind_eq_ok.mp h
  cases h
  cases out with
  | none => cases h1; exact .inl ⟨_, rfl⟩
  | stream n p =>
    obtain ⟨c2, h2, h3⟩ := Res.bind_eq_ok.mp h1
    cases h3
    exact .inr ⟨_, _, c2, _, rfl, sameButStreams_addStreamValue h2, rfl, rfl⟩
  | scalar name =>
    obtain ⟨sc, _, h3⟩ := Res.bind_eq_ok.mp h1
    cases h3
    exact .inr ⟨_, _, _, _, rfl, .upd _ sc _ _ _ _, rfl, rfl⟩

theorem fromCanonStream_eq_ok {cs : CanonStream} {m : CanonStreamMapAgg} (h : CanonStreamMapAgg.fromCanonStream cs = .ok m) :
    m.values = cs.values ∧ m.tetraplet = cs.tetraplet := by
  unfold CanonStreamMapAgg.fromCanonStream at h
  split at h <;> cases h
  exact ⟨rfl, rfl⟩

theorem updCanonFinish_eq_ok {target : CanonTarget} {cs : CanonStream} {cid : Cid} {reg : String} {c c' : Ctx}
    (h : updCanonFinish target cs cid reg c = .ok c') :
    ∃ sc, canonBind target cs cid c = .ok sc ∧
      c' = { c.recordCanonCid reg cid with scalars := sc, th := (c.recordCanonCid reg cid).th.meetCanonEnd (.executed cid) } := by
  obtain ⟨sc, hs, h⟩ := Res.bind_eq_ok.mp h
  cases h; exact ⟨sc, hs, rfl⟩

end AquaProps
