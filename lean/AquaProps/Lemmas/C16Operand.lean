import AquaProps.Lemmas.C16Ref
import Aqua.Exec.Run
/-!
# C16 lemmas, part 2: operands — the executor's resolver against the reference evaluator's operands

On *flat* executor contexts (no fold in progress, depth 0, every scalar cell is one initialised cell of
depth 0 — the shape every context has while a `FragA` script runs) and under `Sub c s` (every scalar the
executor sees has the same value in the reference state), the executor's `resolveValue` and the
reference `operand` agree: a value on the executor side is the same value on the reference side; a
failure that does not wait (non-joinable) is a failure on the reference side; the executor never panics.
The same for what is built on the resolver: call arguments, triplet parts, `match` operands, `ap` arguments.
-/
namespace AquaProps.C16
open Aqua Aqua.Json Aqua.Air Aqua.Exec Aqua.Ref

structure FlatM (m : SparseMatrix ValueAggregate) : Prop where
  depth : m.currentDepth = 0
  allowed : m.allowedDepths = [0]
  cells : ∀ name cells, Exec.lookup m.cells name = some cells → ∃ v, cells = [⟨0, some v⟩]

structure FlatC (c : Ctx) : Prop where
  iter : c.scalars.iterable = []
  m : FlatM c.scalars.nonIterable

/-- the scalar a name denotes in a flat context -/
def scalarOf (c : Ctx) (name : String) : Option ValueAggregate :=
  match Exec.lookup c.scalars.nonIterable.cells name with
  | some [⟨_, some v⟩] => some v
  | _ => none

theorem matrix_getValue_flat {m : SparseMatrix ValueAggregate} (h : FlatM m) (name : String) :
    m.getValue name = (match Exec.lookup m.cells name with
      | some [⟨_, some v⟩] => .ok (some v)
      | _ => catchable (.variableNotFound name)) := by
  unfold SparseMatrix.getValue SparseMatrix.getCells
  cases hl : Exec.lookup m.cells name with
  | none => rfl
  | some cells =>
    obtain ⟨v, rfl⟩ := h.cells name cells hl
    simp [h.allowed]

theorem getValue_flat {c : Ctx} (h : FlatC c) (name : String) :
    c.scalars.getValue name = (match scalarOf c name with
      | some v => .ok (.value v)
      | none => catchable (.variableNotFound name)) := by
  unfold Scalars.getValue scalarOf
  rw [matrix_getValue_flat h.m, h.iter]
  cases hl : Exec.lookup c.scalars.nonIterable.cells name with
  | none => rfl
  | some cells =>
    obtain ⟨v, rfl⟩ := h.m.cells name cells hl
    rfl

def Sub (c : Ctx) (s : State) : Prop := ∀ name va, scalarOf c name = some va → s.lookup name = .val va.result

structure SameParams (c : Ctx) (p : Params) : Prop where
  init : c.initPeerId = p.initPeerId
  ts : c.timestamp = p.timestamp
  ttl : c.ttl = p.ttl

/-- the premises needed to resolve operands in `c` as the reference evaluator does in `s` -/
structure Pre (p : Params) (c : Ctx) (s : State) : Prop where
  flatC : FlatC c
  sub : Sub c s
  params : SameParams c p

/-- executor result `r` against reference result `g` (values compared through `f`) -/
def Agrees {α β : Type} (f : α → β) (r : ER α) (g : Got β) : Prop :=
  match r with
  | .ok a => g = .val (f a)
  | .error (.catchable e) => e.isJoinable = true ∨ g = .error
  | _ => False

theorem agrees_ok {α β : Type} (f : α → β) (a : α) : Agrees f (.ok a : ER α) (.val (f a)) := rfl

theorem agrees_lambda_err {α β : Type} (f : α → β) (e : LambdaErr) : Agrees f (lambdaErr e : ER α) (.error : Got β) :=
  Or.inr rfl

theorem Agrees.cases {α β : Type} {f : α → β} {r : ER α} {g : Got β} (h : Agrees f r g) :
    (∃ a, r = .ok a ∧ g = .val (f a)) ∨ (∃ ce, r = .error (.catchable ce) ∧ ce.isJoinable = true) ∨
      ∃ ce, r = .error (.catchable ce) ∧ ce.isJoinable = false ∧ g = .error := by
  rcases r with a | (ce | _ | _) | _
  · exact .inl ⟨a, rfl, h⟩
  · cases hj : ce.isJoinable
    · exact .inr (.inr ⟨ce, rfl, hj, h.resolve_left (by simp [hj])⟩)
    · exact .inr (.inl ⟨ce, rfl, hj⟩)
  all_goals exact h.elim

theorem agrees_bind {α β α' β' : Type} {f : α → α'} {g : β → β'} {x : ER α} {gx : Got α'}
    {k : α → ER β} {k' : α' → Got β'}
    (hx : Agrees f x gx) (hk : ∀ a, Agrees g (k a) (k' (f a))) : Agrees g (x >>= k) (gx.bind k') := by
  obtain ⟨a, rfl, rfl⟩ | ⟨ce, rfl, hj⟩ | ⟨ce, rfl, -, rfl⟩ := hx.cases
  · exact hk a
  · exact .inl hj
  · exact .inr rfl

theorem _root_.Aqua.Ref.Got.bind_val {α : Type} (g : Got α) : g.bind .val = g := by cases g <;> rfl

theorem idx_agrees (v : JVal) (i : Nat) : Agrees id (liftLambda (tryJvalueWithIdx v i)) (index v i) := by
  unfold tryJvalueWithIdx index liftLambda
  cases v <;> try exact agrees_lambda_err _ _
  rename_i a
  dsimp only
  cases a[i]? <;> first | rfl | exact agrees_lambda_err _ _

theorem field_agrees (v : JVal) (n : String) : Agrees id (liftLambda (tryJvalueWithFieldName v n)) (field v n) := by
  unfold tryJvalueWithFieldName field liftLambda
  cases v <;> try exact agrees_lambda_err _ _
  rename_i kvs
  dsimp only
  cases (JVal.obj kvs).getField n <;> first | rfl | exact agrees_lambda_err _ _

theorem selectBy_agrees (v key : JVal) : Agrees id (liftLambda (selectByJvalue v key)) (selectBy v key) := by
  unfold selectByJvalue selectBy
  cases key with
  | str s => exact field_agrees v s
  | num i =>
    simp only [tryNumberToU32]
    split
    · exact idx_agrees v i.toNat
    · exact agrees_lambda_err _ _
  | _ => exact agrees_lambda_err _ _

variable {p : Params} {c : Ctx} {s : State}

theorem getValue_agrees (h : Pre p c s) (name : String) {β β' : Type} {g : β → β'} {k : ScalarRef → ER β}
    {k' : JVal → Got β'} (hk : ∀ va, Agrees g (k (.value va)) (k' va.result)) :
    Agrees g (c.scalars.getValue name >>= k) ((s.lookup name).bind k') := by
  rw [getValue_flat h.flatC]
  cases hn : scalarOf c name with
  | none => exact .inl rfl
  | some va => rw [h.sub name va hn]; exact hk va

theorem path_agrees (h : Pre p c s) :
    ∀ (as : List Accessor) (v : JVal), Agrees id (selectByPathFromScalar c.scalars v as) (applyPath s v as)
  | [], _ => rfl
  | .arrayAccess i :: rest, v => agrees_bind (idx_agrees v i) (path_agrees h rest)
  | .fieldByName n :: rest, v => agrees_bind (field_agrees v n) (path_agrees h rest)
  | .fieldByScalar x :: rest, v =>
    getValue_agrees h x fun va =>
      show Agrees id (liftLambda (selectByJvalue v va.result) >>= _) _ from
        agrees_bind (selectBy_agrees v va.result) (path_agrees h rest)

theorem lens_agrees (h : Pre p c s) (v : JVal) (l : Lambda) :
    Agrees id (selectByLambdaFromScalar c.scalars v l) (applyLens s v l) := by
  cases l with
  | path as => exact path_agrees h as v
  | functorLength =>
    unfold selectByLambdaFromScalar applyLens
    cases v <;> first | rfl | exact Or.inr rfl

theorem resolveValue_agrees (h : Pre p c s) (v : Value) (hv : FragV v = true) :
    ∃ g, operand p s v = some g ∧ Agrees (fun r : Resolved => r.1) (resolveValue c v) g := by
  cases v with
  | scalar name =>
    exact ⟨_, rfl, by rw [← (s.lookup name).bind_val]; exact getValue_agrees h name fun va => rfl⟩
  | scalarWL name l =>
    refine ⟨_, rfl, getValue_agrees h name fun va => ?_⟩
    show Agrees _ (selectByLambdaFromScalar c.scalars va.result l >>= _) _
    rw [← (applyLens s va.result l).bind_val]
    exact agrees_bind (lens_agrees h va.result l) fun sel => rfl
  | literal _ | number _ | float _ | boolean _ | emptyArray => exact ⟨_, rfl, rfl⟩
  | initPeerId | timestamp | ttl =>
    exact ⟨_, rfl, by simp only [resolveValue, resolveConst, Agrees, h.params.init, h.params.ts, h.params.ttl]⟩
  | _ => cases hv

theorem collectArgs_agrees (h : Pre p c s) : ∀ (args : List Value), args.all FragV = true →
    ∃ ga, operands p s args = some ga ∧ Agrees (fun r : List JVal × List (List Tetraplet) => r.1) (collectArgs c args) ga
  | [], _ => ⟨_, rfl, rfl⟩
  | a :: rest, ha => by
    simp only [List.all_cons, Bool.and_eq_true] at ha
    obtain ⟨g, hg, hag⟩ := resolveValue_agrees h a ha.1
    obtain ⟨gr, hgr, hagr⟩ := collectArgs_agrees h rest ha.2
    refine ⟨g.bind fun v => gr.bind fun vs => .val (v :: vs), by simp only [operands, hg, hgr]; cases g <;> rfl, ?_⟩
    exact agrees_bind hag fun ⟨v, ts, _⟩ => agrees_bind hagr fun ⟨vs, tss⟩ => rfl

theorem resolveToString_agrees (h : Pre p c s) (v : Value) (hv : FragT v = true) :
    ∃ g, operand p s v = some g ∧ Agrees id (resolveToString c v) (asString g) := by
  obtain ⟨g, hg, hag⟩ := resolveValue_agrees h v (fragT_fragV hv)
  refine ⟨g, hg, ?_⟩
  cases v with
  | literal _ => cases hg; rfl
  | initPeerId => cases hg; exact congrArg Got.val h.params.init.symm
  | scalar name | scalarWL name l =>
    exact agrees_bind hag fun ⟨jv, _, _⟩ => by cases jv <;> first | rfl | exact .inr rfl
  | _ => cases hv

def tripletER (c : Ctx) (peer svc func : Value) : ER (String × String × String) :=
  resolveToString c peer >>= fun a => resolveToString c svc >>= fun b => resolveToString c func >>= fun d => .ok (a, b, d)

theorem resolveCall_eq (c : Ctx) (peer svc func : Value) (out : CallOutput) :
    resolveCall c peer svc func out = (tripletER c peer svc func >>= fun x =>
      checkOutputName c out >>= fun _ => .ok { peerPk := x.1, serviceId := x.2.1, functionName := x.2.2 }) := by
  unfold resolveCall tripletER
  cases resolveToString c peer <;> try rfl
  cases resolveToString c svc <;> try rfl
  cases resolveToString c func <;> try rfl

theorem tripletER_agrees (h : Pre p c s) (peer svc func : Value) (h1 : FragT peer = true) (h2 : FragT svc = true)
    (h3 : FragT func = true) :
    ∃ gp gs gf, operand p s peer = some gp ∧ operand p s svc = some gs ∧ operand p s func = some gf ∧
      Agrees id (tripletER c peer svc func) (refTriplet gp gs gf) := by
  obtain ⟨gp, hgp, hap⟩ := resolveToString_agrees h peer h1
  obtain ⟨gs, hgs, has⟩ := resolveToString_agrees h svc h2
  obtain ⟨gf, hgf, haf⟩ := resolveToString_agrees h func h3
  exact ⟨gp, gs, gf, hgp, hgs, hgf, agrees_bind hap fun a => agrees_bind has fun b => agrees_bind haf fun d => rfl⟩

theorem areMatchableEq_agrees (h : Pre p c s) (a b : Value) (ha : FragV a = true) (hb : FragV b = true) :
    ∃ ga gb, operand p s a = some ga ∧ operand p s b = some gb ∧
      Agrees id (areMatchableEq c a b) (ga.bind fun x => gb.bind fun y => .val (x == y)) := by
  obtain ⟨ga, hga, haa⟩ := resolveValue_agrees h a ha
  obtain ⟨gb, hgb, hab⟩ := resolveValue_agrees h b hb
  exact ⟨ga, gb, hga, hgb, agrees_bind haa fun ⟨l, _, _⟩ => agrees_bind hab fun ⟨r, _, _⟩ => rfl⟩

theorem applyToArg_agrees (h : Pre p c s) (arg : Value) (ha : FragV arg = true) :
    ∃ g, operand p s arg = some g ∧ Agrees (fun va : ValueAggregate => va.result) (applyToArg c arg) g := by
  cases arg with
  | scalar name =>
    exact ⟨_, rfl, by rw [← (s.lookup name).bind_val]; exact getValue_agrees h name fun va => rfl⟩
  | scalarWL name l =>
    -- `resolveValue`, then the first (and only) tetraplet: regrouped so that the scalar is read first
    refine ⟨_, rfl, ?_⟩
    simp only [applyToArg, resolveValue, Res.bind_assoc]
    refine getValue_agrees h name fun va => ?_
    show Agrees _ (selectByLambdaFromScalar c.scalars va.result l >>= _) _
    rw [← (applyLens s va.result l).bind_val]
    exact agrees_bind (lens_agrees h va.result l) fun sel => by cases va.provenance <;> rfl
  | literal _ | number _ | float _ | boolean _ | emptyArray => exact ⟨_, rfl, rfl⟩
  | initPeerId | timestamp | ttl =>
    exact ⟨_, rfl, by simp only [applyToArg, Agrees, h.params.init, h.params.ts, h.params.ttl]⟩
  | _ => cases ha

end AquaProps.C16
