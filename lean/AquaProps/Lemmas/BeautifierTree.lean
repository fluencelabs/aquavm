import AquaProps.Lemmas.BeautifierText
/-! Tree-level lemmas for C28: the block reader on the beautifier's layout. -/
namespace AquaProps.Lemmas.BeautifierTree
open Aqua.Air Aqua.Air.Beautifier Aqua.Air.Unbeautify AquaProps.Lemmas.BeautifierText

/-- `y` is defined wherever `x` is, with the same value (the reader with more fuel against the reader with less) -/
def Ext {α} (x y : Option α) : Prop := ∀ v, x = some v → y = some v

theorem Ext.bind {α β} {x y : Option α} {f g : α → Option β} (h : Ext x y) (hf : ∀ a, Ext (f a) (g a)) : Ext (x.bind f) (y.bind g) := by
  intro v hv
  obtain ⟨a, ha, hv⟩ := Option.bind_eq_some_iff.mp hv
  exact Option.bind_eq_some_iff.mpr ⟨a, h a ha, hf a v hv⟩

theorem Ext.map {α β} {x y : Option α} (f : α → β) (h : Ext x y) : Ext (x.map f) (y.map f) := by
  intro v hv
  obtain ⟨a, ha, hv⟩ := Option.map_eq_some_iff.mp hv
  exact Option.map_eq_some_iff.mpr ⟨a, h a ha, hv⟩

theorem Ext.rfl {α} {x : Option α} : Ext x x := fun _ h => h

theorem childrenOf_mono {r1 r2} (h : ∀ d ls, Ext (r1 d ls) (r2 d ls)) (d : Nat) (xs : List Line) :
    Ext (childrenOf r1 d xs) (childrenOf r2 d xs) := by
  cases xs with
  | nil => exact Ext.rfl
  | cons c cs => simp only [childrenOf]; split; exact h _ _; exact Ext.rfl

theorem readStep_mono {r1 r2} (h : ∀ d ls, Ext (r1 d ls) (r2 d ls)) (d : Nat) (ls : List Line) :
    Ext (readStep r1 d ls) (readStep r2 d ls) := by
  have hc := childrenOf_mono h d
  cases ls with
  | nil => exact Ext.rfl
  | cons l ls =>
    simp only [readStep]
    split
    · exact Ext.rfl
    split
    · exact Ext.rfl
    split
    · exact (h _ _).map _
    · exact Ext.rfl.bind fun _ => (h _ _).map _
    · exact Ext.rfl.bind fun _ => (h _ _).map _
    · exact (hc _).bind fun _ => Ext.rfl.bind fun _ => (hc _).bind fun _ => (h _ _).map _
    · exact (hc _).bind fun _ => Ext.rfl.bind fun _ => (hc _).bind fun _ => (h _ _).map _
    · refine Ext.rfl.bind fun _ => (hc _).bind fun _ => ?_
      split
      · exact (hc _).bind fun _ => (h _ _).map _
      · exact (h _ _).map _
    · exact Ext.rfl
    · exact Ext.rfl

theorem readItems_mono {f F : Nat} (hF : f ≤ F) (d : Nat) (ls : List Line) : Ext (readItems f d ls) (readItems F d ls) := by
  induction f generalizing F d ls with
  | zero => intro v hv; simp [readItems] at hv
  | succ f ih =>
    obtain ⟨F, rfl⟩ : ∃ F', F = F' + 1 := ⟨F - 1, by omega⟩
    exact readStep_mono (fun d ls => ih (by omega) d ls) d ls

def Stops (d : Nat) (rest : List Line) : Prop := ∀ l ∈ rest.head?, l.indent ≤ d

theorem read_some_stops {f d rest v} (h : readItems f d rest = some v) : Stops d rest := by
  cases f with
  | zero => simp [readItems] at h
  | succ f =>
    cases rest with
    | nil => simp [Stops]
    | cons l tl =>
      simp only [readItems, readStep] at h
      simp only [Stops, List.head?_cons, Option.mem_def, Option.some.injEq, forall_eq']
      by_cases h1 : l.indent < d
      · omega
      · by_cases h2 : d < l.indent
        · simp [h1, h2] at h
        · omega

theorem fuel_pos {f d rest v} (h : readItems f d rest = some v) : 1 ≤ f := by
  cases f with
  | zero => simp [readItems] at h
  | succ f => omega

theorem read_stop {d d' : Nat} {rest : List Line} (h : Stops d rest) (hd : d < d') (f : Nat) :
    readItems (f + 1) d' rest = some ([], rest) := by
  cases rest with
  | nil => simp [readItems, readStep]
  | cons l tl =>
    have : l.indent < d' := Nat.lt_of_le_of_lt (h l rfl) hd
    simp [readItems, readStep, this]

theorem separator_none_of_read {f d rest v} (sep : Text) (hsep : classify sep = .sep)
    (h : readItems f d rest = some v) : separatorAt d sep rest = none := by
  cases rest with
  | nil => rfl
  | cons l tl =>
    simp only [separatorAt]
    split
    · rename_i hc
      exfalso
      cases f with
      | zero => simp [readItems] at h
      | succ f =>
        simp only [readItems, readStep] at h
        have h1 : ¬ l.indent < d := by omega
        have h2 : ¬ d < l.indent := by omega
        simp [h1, h2, hc.2, hsep] at h
    · rfl

theorem separatorAt_cons (d : Nat) (sep : Text) (rest : List Line) : separatorAt d sep (⟨d, sep⟩ :: rest) = some rest := by
  simp [separatorAt]

/-- `body` (lines of a nested block at indentation `d'`) reads as `sk` in front of anything, with enough fuel -/
def ReadsAs (d' : Nat) (body : List Line) (sk : List Sk) : Prop :=
  (∃ t tl, body = ⟨d', t⟩ :: tl) ∧
  ∀ rest f items r, readItems f d' rest = some (items, r) →
    ∀ F, f + body.length ≤ F → readItems F d' (body ++ rest) = some (sk ++ items, r)

theorem children_read {d s : Nat} (hs : 0 < s) {body : List Line} {sk : List Sk} (hb : ReadsAs (d + s) body sk)
    {rest : List Line} (hstop : Stops d rest) {F : Nat} (hF : 1 + body.length ≤ F) :
    childrenOf (readItems F) d (body ++ rest) = some (sk, rest) := by
  obtain ⟨⟨t, tl, rfl⟩, hread⟩ := hb
  have := hread rest 1 [] rest (read_stop hstop (by omega) 0) F hF
  simp only [List.append_nil] at this
  simp only [List.cons_append, childrenOf, Nat.lt_add_right_iff_pos, hs, if_true]
  exact this

/-- rule for a line `t` that is an instruction `sk` by itself -/
def Rule0 (t : Text) (sk : Sk) : Prop :=
  ∀ F d ls items r, readItems F d ls = some (items, r) → readItems (F + 1) d (⟨d, t⟩ :: ls) = some (sk :: items, r)

/-- rule for a head line `t` followed by two nested sections with the line `sep` between them -/
def Rule2 (t sep : Text) (node : List Sk → List Sk → Sk) : Prop :=
  ∀ F d ls a r₁ r₂ b r₃ items r, childrenOf (readItems F) d ls = some (a, r₁) → separatorAt d sep r₁ = some r₂ →
    childrenOf (readItems F) d r₂ = some (b, r₃) → readItems F d r₃ = some (items, r) →
    readItems (F + 1) d (⟨d, t⟩ :: ls) = some (node a b :: items, r)

theorem rule_simple (t : Text) (hc : classify t = .simple) : Rule0 t (.instr t) := by
  intro F d ls items r h
  simp only [readItems, readStep, Nat.lt_irrefl, if_false, hc, h, Option.map_some]

theorem rule_call (p s fn : Text) (args : List Text)
    (hp : tokWF p = true) (hs : tokWF s = true) (hf : tokWF fn = true) (ha : ∀ a ∈ args, tokWF a = true) :
    Rule0 (callCore p s fn args) (.call none p s fn args) := by
  intro F d ls items r h
  simp only [readItems, readStep, Nat.lt_irrefl, if_false, classify_callCore,
    readCallRest_callCore p s fn args hp hs hf ha, Option.bind_some, h, Option.map_some]

theorem rule_callOut (n p s fn : Text) (args : List Text) (hn : outWF n = true)
    (hp : tokWF p = true) (hs : tokWF s = true) (hf : tokWF fn = true) (ha : ∀ a ∈ args, tokWF a = true) :
    Rule0 (n ++ ' ' :: '<' :: '-' :: ' ' :: callCore p s fn args) (.call (some n) p s fn args) := by
  intro F d ls items r h
  obtain ⟨_, hsp, _⟩ := outWF_cases n hn
  have h1 : afterFirstWord (afterFirstWord (n ++ ' ' :: '<' :: '-' :: ' ' :: callCore p s fn args)) = callCore p s fn args := by
    rw [afterFirstWord_append_space _ _ hsp]
    exact afterFirstWord_append_space ['<', '-'] _ (by decide)
  simp only [readItems, readStep, Nat.lt_irrefl, if_false, classify_callOut n _ hn, h1, firstWord_append_space _ _ hsp,
    readCallRest_callCore p s fn args hp hs hf ha, Option.bind_some, h, Option.map_some]

theorem rule_par {t : Text} (hc : classify t = .par) : Rule2 t "|".toList .par := by
  intro F d ls a r₁ r₂ b r₃ items r h₁ h₂ h₃ h₄
  simp only [readItems, readStep, Nat.lt_irrefl, if_false, hc, h₁, h₂, h₃, h₄, Option.bind_some, Option.map_some]

theorem rule_xor {t : Text} (hc : classify t = .xor) : Rule2 t "catch:".toList .xor := by
  intro F d ls a r₁ r₂ b r₃ items r h₁ h₂ h₃ h₄
  simp only [readItems, readStep, Nat.lt_irrefl, if_false, hc, h₁, h₂, h₃, h₄, Option.bind_some, Option.map_some]

theorem rule_last (head : Text) (hc : classify (head ++ [':']) = .block) :
    Rule2 (head ++ [':']) "last:".toList (.block head · true ·) := by
  intro F d ls a r₁ r₂ b r₃ items r h₁ h₂ h₃ h₄
  simp only [readItems, readStep, Nat.lt_irrefl, if_false, hc, stripColon_concat, h₁, h₂, h₃, h₄, Option.bind_some,
    Option.map_some]

theorem readsAs_line {t : Text} {sk : Sk} (rule : Rule0 t sk) (d : Nat) : ReadsAs d [⟨d, t⟩] [sk] := by
  refine ⟨⟨t, [], rfl⟩, fun rest f items r h F hF => ?_⟩
  obtain ⟨F', rfl⟩ : ∃ F', F = F' + 1 := ⟨F - 1, by simp at hF; omega⟩
  exact rule F' d rest items r (readItems_mono (by simp at hF; omega) _ _ _ h)

theorem readsAs_append {d : Nat} {l r : List Line} {skl skr : List Sk} (hl : ReadsAs d l skl) (hr : ReadsAs d r skr) :
    ReadsAs d (l ++ r) (skl ++ skr) := by
  obtain ⟨⟨t, tl, rfl⟩, hl2⟩ := hl
  refine ⟨⟨t, tl ++ r, rfl⟩, fun rest f items rr h F hF => ?_⟩
  have h2 := hl2 (r ++ rest) (f + r.length) (skr ++ items) rr (hr.2 rest f items rr h _ (Nat.le_refl _)) F (by simp at hF ⊢; omega)
  simpa [List.append_assoc] using h2

theorem readsAs_two {t sep : Text} {node : List Sk → List Sk → Sk} (rule : Rule2 t sep node) {d s : Nat} (hs : 0 < s)
    {l r : List Line} {skl skr : List Sk} (hl : ReadsAs (d + s) l skl) (hr : ReadsAs (d + s) r skr) :
    ReadsAs d (⟨d, t⟩ :: l ++ ⟨d, sep⟩ :: r) [node skl skr] := by
  refine ⟨⟨_, _, rfl⟩, fun rest f items r' h F hF => ?_⟩
  have hf1 := fuel_pos h
  simp only [List.length_cons, List.length_append] at hF
  obtain ⟨F', rfl⟩ : ∃ F', F = F' + 1 := ⟨F - 1, by omega⟩
  simp only [List.cons_append, List.append_assoc, List.nil_append]
  exact rule F' d _ _ _ _ _ _ _ _
    (children_read hs hl (by simp [Stops]) (by omega)) (separatorAt_cons d sep _)
    (children_read hs hr (read_some_stops h) (by omega)) (readItems_mono (by omega) _ _ _ h)

theorem readsAs_block {head : Text} (hc : classify (head ++ [':']) = .block) {d s : Nat} (hs : 0 < s)
    {body : List Line} {sk : List Sk} (hb : ReadsAs (d + s) body sk) :
    ReadsAs d (⟨d, head ++ [':']⟩ :: body) [.block head sk false []] := by
  refine ⟨⟨_, _, rfl⟩, fun rest f items r h F hF => ?_⟩
  have hf1 := fuel_pos h
  simp only [List.length_cons] at hF
  obtain ⟨F', rfl⟩ : ∃ F', F = F' + 1 := ⟨F - 1, by omega⟩
  simp only [List.cons_append, readItems, readStep, Nat.lt_irrefl, if_false, hc, stripColon_concat, Option.bind_some,
    children_read hs hb (read_some_stops h) (by omega : 1 + body.length ≤ F'),
    separator_none_of_read "last:".toList (by decide +kernel) h, readItems_mono (by omega : f ≤ F') _ _ _ h, Option.map_some,
    List.nil_append]

theorem walker_head (cfg : Cfg) (i : Instr) (d : Nat) : ∃ t tl, beautifyWalker cfg i d = ⟨d, t⟩ :: tl := by
  fun_induction beautifyWalker cfg i d <;> try (exact ⟨_, _, rfl⟩)
  rename_i ih2 ih1
  obtain ⟨t, tl, h⟩ := ih2
  exact ⟨t, tl ++ _, by rw [h]; rfl⟩

theorem tryHopon_eq (arg : NewArg) (body : Instr) (sl sr : Nat) :
    tryHopon arg body = hopOnPeer (.new arg body sl sr) := by
  unfold tryHopon
  split
  · rename_i peer _ _ _ _ _
    cases peer <;> simp [hopOnPeer, canonShadowsPeerId, Bool.and_comm]
  · rename_i h
    rw [hopOnPeer.eq_def]
    split
    · rename_i heq
      cases heq
      exact absurd rfl (h _ _ _ _ _ _ _ _ rfl)
    · rfl

theorem callText_eq (p s f : Value) (args : List Value) (out : CallOutput) :
    callText p s f args out =
      match out with
      | .none => callCore (valueText p) (valueText s) (valueText f) (args.map valueText)
      | .scalar n | .stream n _ =>
        n.toList ++ ' ' :: '<' :: '-' :: ' ' :: callCore (valueText p) (valueText s) (valueText f) (args.map valueText) := by
  unfold callText callCore
  cases out <;> simp only [List.append_assoc, List.nil_append, String.reduceToList, List.cons_append]

theorem readsAs_call (p s f : Value) (args : List Value) (out : CallOutput) (d : Nat)
    (hwf : WF (.call p s f args out) = true) (hop : Bool) :
    ReadsAs d [⟨d, callText p s f args out⟩] (skeleton hop (.call p s f args out)) := by
  simp only [WF, Bool.and_eq_true, List.all_eq_true] at hwf
  obtain ⟨⟨⟨⟨hp, hs⟩, hf⟩, ha⟩, ho⟩ := hwf
  have ha' : ∀ a ∈ args.map valueText, tokWF a = true := by
    intro a hm
    obtain ⟨v, hv, rfl⟩ := List.mem_map.mp hm
    exact ha v hv
  rw [callText_eq]
  cases out with
  | none => exact readsAs_line (rule_call _ _ _ _ hp hs hf ha') d
  | scalar | stream => exact readsAs_line (rule_callOut _ _ _ _ _ ho hp hs hf ha') d

theorem reads_walker (cfg : Cfg) (hs : 0 < cfg.indentStep) (i : Instr) (d : Nat) (hwf : WF i = true) :
    ReadsAs d (beautifyWalker cfg i d) (skeleton cfg.tryHopon i) := by
  fun_induction beautifyWalker cfg i d
  case case1 => exact readsAs_call _ _ _ _ _ _ hwf _
  case case2 ih2 ih1 =>
    simp only [WF, Bool.and_eq_true] at hwf
    exact readsAs_append (ih2 hwf.1) (ih1 hwf.2)
  case case3 ih2 ih1 =>
    simp only [WF, Bool.and_eq_true] at hwf
    exact readsAs_two (rule_par (by decide +kernel)) hs (ih2 hwf.1) (ih1 hwf.2)
  case case4 ih2 ih1 =>
    simp only [WF, Bool.and_eq_true] at hwf
    exact readsAs_two (rule_xor (by decide +kernel)) hs (ih2 hwf.1) (ih1 hwf.2)
  case case5 ih1 | case6 ih1 =>
    simp only [WF] at hwf
    exact readsAs_block (classify_block _) hs (ih1 hwf)
  case case7 last _ ih2 ih1 | case8 last _ _ ih2 ih1 | case9 last _ _ ih2 ih1 =>
    cases last with
    | none =>
      simp only [WF, Bool.and_true] at hwf
      simp only [List.append_nil]
      exact readsAs_block (classify_block _) hs (ih2 hwf)
    | some l =>
      simp only [WF, Bool.and_eq_true] at hwf
      exact readsAs_two (rule_last _ (classify_block _)) hs (ih2 hwf.1) (ih1 hwf.2)
  case case10 arg body sl sr _ peer hx =>
    have hsk : skeleton cfg.tryHopon (.new arg body sl sr) = [.instr (hopOnText peer)] := by
      dsimp only [skeleton]; rw [← tryHopon_eq, hx]; rfl
    rw [hsk]
    exact readsAs_line (rule_simple _ (classify_simple _)) _
  case case11 arg body sl sr _ hx ih1 =>
    simp only [WF] at hwf
    have hsk : skeleton cfg.tryHopon (.new arg body sl sr) =
        [.block (instrText (.new arg body sl sr)) (skeleton cfg.tryHopon body) false []] := by
      dsimp only [skeleton]; rw [← tryHopon_eq, hx]
    rw [hsk]
    exact readsAs_block (classify_block _) hs (ih1 hwf)
  case case18 a _ => cases a <;> exact readsAs_line (rule_simple _ (classify_simple _)) _
  -- the other instructions are printed on one line
  all_goals exact readsAs_line (rule_simple _ (classify_simple _)) _

theorem isSep_of_space (t : Text) (h : ' ' ∈ t) : isSep t = false := by
  have h3 : t ≠ "|".toList := by intro e; subst e; simp at h
  have h4 : t ≠ "catch:".toList := by intro e; subst e; simp at h
  have h5 : t ≠ "last:".toList := by intro e; subst e; simp at h
  unfold isSep
  simp only [Bool.or_eq_false_iff, beq_eq_false_iff_ne]
  exact ⟨⟨h3, h4⟩, h5⟩

theorem isSep_ownText (hop : Bool) (i : Instr) : isSep (ownText hop i) = false := by
  cases i with
  | call p s f args out => exact isSep_of_space _ (by rw [ownText, callText_eq]; cases out <;> simp [callCore])
  | new arg body sl sr =>
    dsimp only [ownText, instrText]
    split <;> exact isSep_of_space _ (by simp)
  | fail a =>
    cases a with
    | lastError | error => dsimp only [ownText, instrText, failText]; decide +kernel
    | _ => exact isSep_of_space _ (by dsimp only [ownText, instrText, failText]; simp)
  | seq | par | xor | null | never => dsimp only [ownText, instrText]; decide +kernel
  | _ => exact isSep_of_space _ (by dsimp only [ownText, instrText]; simp)

def lineOf (cfg : Cfg) (x : Nat × Instr) : Line := ⟨x.1 * cfg.indentStep, ownText cfg.tryHopon x.2⟩

/-- the lines `ls`, separator lines dropped, are those of the instructions `r` -/
def Lists (cfg : Cfg) (r : List (Nat × Instr)) (ls : List Line) : Prop :=
  ls.filter (fun l => !isSep l.text) = r.map (lineOf cfg)

theorem lists_nil (cfg : Cfg) : Lists cfg [] [] := rfl

theorem lists_append {cfg : Cfg} {r r' ls ls'} (h : Lists cfg r ls) (h' : Lists cfg r' ls') : Lists cfg (r ++ r') (ls ++ ls') := by
  unfold Lists at *
  simp only [List.filter_append, List.map_append, h, h']

theorem lists_node {cfg : Cfg} (k : Nat) (i : Instr) {r ls} (h : Lists cfg r ls) :
    Lists cfg ((k, i) :: r) (lineOf cfg (k, i) :: ls) := by
  unfold Lists at *
  simp only [List.filter_cons, lineOf, isSep_ownText, Bool.not_false, if_true, List.map_cons, h]

theorem lists_sep {cfg : Cfg} {d : Nat} {t : Text} (ht : isSep t = true) {r ls} (h : Lists cfg r ls) : Lists cfg r (⟨d, t⟩ :: ls) := by
  unfold Lists at *
  simp only [List.filter_cons, ht, Bool.not_true, Bool.false_eq_true, if_false, h]

theorem filter_walker (cfg : Cfg) (i : Instr) (k : Nat) :
    Lists cfg (flat cfg.tryHopon i k) (beautifyWalker cfg i (k * cfg.indentStep)) := by
  have hsucc : ∀ d : Nat, d * cfg.indentStep + cfg.indentStep = (d + 1) * cfg.indentStep := fun d => (Nat.succ_mul ..).symm
  fun_induction flat cfg.tryHopon i k
  case case1 ih2 ih1 => exact lists_append ih2 ih1
  case case2 ih2 ih1 | case3 ih2 ih1 =>
    rw [← hsucc] at ih2 ih1
    exact lists_node _ _ (lists_append ih2 (lists_sep (by decide +kernel) ih1))
  case case4 ih1 | case5 ih1 =>
    rw [← hsucc] at ih1
    exact lists_node _ _ ih1
  case case6 last _ ih2 ih1 | case7 last _ _ ih2 ih1 | case8 last _ _ ih2 ih1 =>
    rw [← hsucc] at ih2 ih1
    cases last with
    | none => exact lists_node _ _ (lists_append ih2 (lists_nil cfg))
    | some l => exact lists_node _ _ (lists_append ih2 (lists_sep (by decide +kernel) ih1))
  case case9 arg body sl sr d peer hx =>
    have : beautifyWalker cfg (.new arg body sl sr) (d * cfg.indentStep) = [lineOf cfg (d, .new arg body sl sr)] := by
      simp only [beautifyWalker, tryHopon_eq arg body sl sr, hx, lineOf, ownText]; rfl
    rw [this]
    exact lists_node _ _ (lists_nil cfg)
  case case10 arg body sl sr d hx ih1 =>
    have : beautifyWalker cfg (.new arg body sl sr) (d * cfg.indentStep) =
        lineOf cfg (d, .new arg body sl sr) :: beautifyWalker cfg body ((d + 1) * cfg.indentStep) := by
      simp only [beautifyWalker, tryHopon_eq arg body sl sr, hx, lineOf, ownText, hsucc]; rfl
    rw [this]
    exact lists_node _ _ ih1
  all_goals exact lists_node _ _ (lists_nil cfg)

theorem splitLines_cons_ne (acc : Text) (c : Char) (cs : Text) (h : c ≠ '\n') :
    splitLines acc (c :: cs) = splitLines (c :: acc) cs := by
  cases acc <;> simp [splitLines]

theorem splitLines_newline (acc cs : Text) : splitLines acc ('\n' :: cs) = (splitLines [] cs).map (acc.reverse :: ·) := by
  cases acc <;> rfl

theorem splitLines_line (acc t rest : Text) (h : ∀ c ∈ t, c ≠ '\n') :
    splitLines acc (t ++ '\n' :: rest) = (splitLines [] rest).map ((acc.reverse ++ t) :: ·) := by
  induction t generalizing acc with
  | nil => simp [splitLines_newline]
  | cons c cs ih =>
    rw [List.cons_append, splitLines_cons_ne acc c _ (h c (by simp)), ih _ (fun x hx => h x (by simp [hx]))]
    simp

theorem lineOK_cases (l : Line) (h : lineOK l = true) :
    (∀ c ∈ l.text, c ≠ '\n') ∧ ∃ c t, l.text = c :: t ∧ c ≠ ' ' := by
  unfold lineOK at h
  simp only [Bool.and_eq_true, Bool.not_eq_true', List.contains_eq_mem, decide_eq_false_iff_not] at h
  refine ⟨fun c hc e => h.1 (e ▸ hc), ?_⟩
  cases ht : l.text with
  | nil => simp [ht] at h
  | cons c t => simp [ht] at h; exact ⟨c, t, rfl, h.2⟩

theorem parseLine_renderLine (l : Line) (h : lineOK l = true) :
    parseLine (List.replicate l.indent ' ' ++ l.text) = l := by
  obtain ⟨_, c, t, ht, hc⟩ := lineOK_cases l h
  obtain ⟨d, text⟩ := l
  subst ht
  have h1 : ∀ x ∈ List.replicate d ' ', (x == ' ') = true := by
    intro x hx; simp [(List.mem_replicate.mp hx).2]
  have hcf : (c == ' ') = false := by simpa using hc
  unfold parseLine
  rw [List.takeWhile_append_of_pos h1, List.dropWhile_append_of_pos h1]
  simp [hcf]

theorem splitLines_render (ls : List Line) (h : ∀ l ∈ ls, lineOK l = true) :
    splitLines [] (render ls) = some (ls.map fun l => List.replicate l.indent ' ' ++ l.text) := by
  induction ls with
  | nil => rfl
  | cons l ls ih =>
    have hno : ∀ c ∈ List.replicate l.indent ' ' ++ l.text, c ≠ '\n' := by
      intro c hc
      rcases List.mem_append.mp hc with hc | hc
      · rw [(List.mem_replicate.mp hc).2]; decide
      · exact (lineOK_cases l (h l (by simp))).1 c hc
    have : render (l :: ls) = (List.replicate l.indent ' ' ++ l.text) ++ '\n' :: render ls := by
      simp [render, renderLine]
    rw [this, splitLines_line [] _ _ hno, ih (fun x hx => h x (by simp [hx]))]
    simp

theorem linesOf_render (ls : List Line) (h : ∀ l ∈ ls, lineOK l = true) : linesOf (render ls) = some ls := by
  simp only [linesOf, splitLines_render ls h, Option.map_some, List.map_map]
  congr 1
  exact (List.map_congr_left fun l hl => parseLine_renderLine l (h l hl)).trans (List.map_id ls)
end AquaProps.Lemmas.BeautifierTree
