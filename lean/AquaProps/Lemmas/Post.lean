import AquaProps.Lemmas.Rel
/-!
Value postconditions for the execution monad: `Post Q m` says every value `m` returns satisfies `Q`
(whatever the context).  Together with `Rel` this gives Hoare-style reasoning where the continuation
may depend on what the first computation returned (`rel_bind_post`).
-/
namespace AquaProps
open Aqua Aqua.Exec Aqua.Air Aqua.Trace

def Post {α : Type} (Q : α → Prop) (m : M α) : Prop := ∀ c a, (m c).1 = .ok a → Q a

variable {R : Ctx → Ctx → Prop} {α β : Type}

theorem post_pure {Q : α → Prop} {a : α} (h : Q a) : Post Q (pure a : M α) := by
  intro c b hb; cases hb; exact h

theorem post_throwE {Q : α → Prop} (e : ExecErr) : Post Q (throwE e : M α) := by
  intro c b hb; cases hb

theorem post_panicM {Q : α → Prop} (s : String) : Post Q (panicM s : M α) := by
  intro c b hb; cases hb

theorem post_bind' {P : α → Prop} {Q : β → Prop} {m : M α} {f : α → M β} (hm : Post P m) (hf : ∀ a, P a → Post Q (f a)) :
    Post Q (m >>= f) := by
  intro c b hb
  rcases bind_cases m f c with ⟨a, ha, h⟩ | ⟨h, _⟩
  · rw [h] at hb; exact hf a (hm c a ha) _ b hb
  · exact absurd hb (h b)

theorem post_true (m : M α) : Post (fun _ => True) m := fun _ _ _ => trivial

theorem post_bind {Q : β → Prop} {m : M α} {f : α → M β} (hf : ∀ a, Post Q (f a)) : Post Q (m >>= f) :=
  post_bind' (post_true m) fun a _ => hf a

theorem post_readCtx {Q : α → Prop} (f : Ctx → α) (h : ∀ c, Q (f c)) : Post Q (readCtx f) := by
  intro c a ha; cases ha; exact h c

theorem rel_bind_post (hR : Preorder' R) {Q : α → Prop} {m : M α} {f : α → M β} (hm : Rel R m) (hq : Post Q m)
    (hf : ∀ a, Q a → Rel R (f a)) : Rel R (m >>= f) :=
  fun c => rel_bind_pt hR c (hm c) fun a ha => hf a (hq c a ha) _

theorem rel_bind_val (hR : Preorder' R) {m : M α} {f : α → M β} (Q : α → Prop) (hm : Rel R m)
    (hq : ∀ c a, (m c).1 = .ok a → Q a) (hf : ∀ a, Q a → Rel R (f a)) : Rel R (m >>= f) :=
  rel_bind_post hR hm hq hf

end AquaProps
