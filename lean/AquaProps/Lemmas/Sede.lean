import Aqua.Codec.Sede
import AquaProps.Lemmas.VarintU32
import AquaProps.Lemmas.MsgPack
/-!
Typed layer of the codecs (`Aqua.Codec.Sede`): the typed readers undo the typed writers.
-/
namespace AquaProps.Lemmas.Sede
open Aqua Aqua.Sede Aqua.MsgPack
open AquaProps.Lemmas.MsgPack (WF WFList WFPairs)

theorem bytesToString_strBytes (s : String) : bytesToString (strBytes s) = some s := by
  unfold bytesToString strBytes
  have h : (ByteArray.mk s.toUTF8.data.toList.toArray) = s.toUTF8 := by simp
  rw [h]
  unfold String.fromUTF8?
  have hv : s.toUTF8.IsValidUTF8 := s.isValidUTF8
  rw [dif_pos hv]
  rfl

theorem deString_str (s : String) : deString (.str (strBytes s)) = some s := bytesToString_strBytes s
theorem deStrOnly_str (s : String) : deStrOnly (.str (strBytes s)) = some s := bytesToString_strBytes s

theorem deVersion_str (s : String) (v : Semver.Version) (h : Semver.parse s.toList = some v) :
    deVersion (.str (strBytes s)) = some v := by
  simp [deVersion, deStrOnly_str, h]

theorem decodeMultiformat_encodeMultiformat {α : Type} (codec : Nat) (hc : codec < 2 ^ 32) (fromSlice : Bytes → Option α)
    (payload : Bytes) :
    decodeMultiformat codec fromSlice (encodeMultiformat codec payload) =
      match fromSlice payload with
      | some v => .ok v
      | none => .error .format := by
  unfold decodeMultiformat encodeMultiformat
  rw [Varint.encodeU32_roundtrip codec hc payload]
  simp only [ne_eq, not_true_eq_false, if_false]
  cases fromSlice payload <;> rfl

theorem decodeMultiformat_other_codec {α : Type} (codec expected : Nat) (hc : codec < 2 ^ 32) (hne : codec ≠ expected)
    (fromSlice : Bytes → Option α) (payload : Bytes) :
    decodeMultiformat expected fromSlice (encodeMultiformat codec payload) = .error (.codec codec) := by
  simp [decodeMultiformat, encodeMultiformat, Varint.encodeU32_roundtrip codec hc payload, hne]

theorem rmpParse_rmpWrite (v : Val) (hv : WF v) (hd : depth v < maxDepth) (rest : Bytes) :
    rmpParse (rmpWrite v ++ rest) = some v := by
  simp [rmpParse, rmpWrite, MsgPack.decodeAll_encode v hv rest, hd]

theorem rmpParse_rmpWrite' (v : Val) (hv : WF v) (hd : depth v < maxDepth) : rmpParse (rmpWrite v) = some v := by
  have := rmpParse_rmpWrite v hv hd []
  simpa using this

theorem deStruct_req (a b c d : Val) :
    deStruct Gen.callRequestParamsFieldBytes (structVal Gen.callRequestParamsFieldBytes [a, b, c, d]) = some [a, b, c, d] := rfl
theorem deStruct_res (a b : Val) :
    deStruct Gen.callServiceResultFieldBytes (structVal Gen.callServiceResultFieldBytes [a, b]) = some [a, b] := rfl
theorem deStruct_tet (a b c d : Val) :
    deStruct Gen.securityTetrapletFieldBytes (structVal Gen.securityTetrapletFieldBytes [a, b, c, d]) = some [a, b, c, d] := rfl
theorem deStruct_ver (a b c : Val) :
    deStruct Gen.versionsFieldBytes (structVal (Gen.versionsFieldBytes ++ Gen.envelopeFieldBytes) [a, b, c]) = some [a, b] := rfl

theorem wfList_iff (l : List Val) : WFList l ↔ ∀ v ∈ l, WF v := by
  induction l with
  | nil => simp [WFList]
  | cons v vs ih => simp [WFList, ih]

theorem wfPairs_iff (l : List (Val × Val)) : WFPairs l ↔ ∀ e ∈ l, WF e.1 ∧ WF e.2 := by
  induction l with
  | nil => simp [WFPairs]
  | cons e es ih => obtain ⟨k, v⟩ := e; simp [WFPairs, ih, and_assoc]

theorem depthList_le_iff (l : List Val) (n : Nat) : depthList l ≤ n ↔ ∀ v ∈ l, depth v ≤ n := by
  induction l with
  | nil => simp [depthList]
  | cons v vs ih => simp [depthList, Nat.max_le, ih]

theorem depthPairs_le_iff (l : List (Val × Val)) (n : Nat) :
    depthPairs l ≤ n ↔ ∀ e ∈ l, depth e.1 ≤ n ∧ depth e.2 ≤ n := by
  induction l with
  | nil => simp [depthPairs]
  | cons e es ih => obtain ⟨k, v⟩ := e; simp [depthPairs, Nat.max_le, ih, and_assoc]

theorem wf_structVal (fields : List Bytes) (vals : List Val) (hf : ∀ x ∈ fields, x.length < 2 ^ 32)
    (hv : ∀ v ∈ vals, WF v) (hl : vals.length < 2 ^ 32) : WF (structVal fields vals) := by
  refine ⟨by simp only [List.length_map, List.length_zip]; omega, (wfPairs_iff _).mpr ?_⟩
  simp only [List.forall_mem_map, Prod.forall]
  exact fun f v he => ⟨hf f (List.of_mem_zip he).1, hv v (List.of_mem_zip he).2⟩

theorem depth_structVal_le (fields : List Bytes) (vals : List Val) (n : Nat) (hv : ∀ v ∈ vals, depth v ≤ n) :
    depth (structVal fields vals) ≤ 1 + n := by
  refine Nat.add_le_add_left ((depthPairs_le_iff _ n).mpr ?_) 1
  simp only [List.forall_mem_map, Prod.forall]
  exact fun f v he => ⟨Nat.zero_le n, hv v (List.of_mem_zip he).2⟩

theorem wf_structVal4 (f : List Bytes) (a b c d : Val) (hf : ∀ x ∈ f, x.length < 2 ^ 32)
    (ha : WF a) (hb : WF b) (hc : WF c) (hd : WF d) : WF (structVal f [a, b, c, d]) :=
  wf_structVal f _ hf (by simp [ha, hb, hc, hd]) (by simp)

/-! Per wire structure: what was written is well formed, at most one level deep, and read back. -/

theorem req_layout (p : CallRequestParams) (h1 : (strBytes p.serviceId).length < 2 ^ 32)
    (h2 : (strBytes p.functionName).length < 2 ^ 32) (h3 : p.arguments.length < 2 ^ 32) (h4 : p.tetraplets.length < 2 ^ 32) :
    WF p.toVal ∧ depth p.toVal ≤ 1 ∧ deCallRequestParams p.toVal = some p :=
  ⟨wf_structVal4 _ _ _ _ _ (by decide) h1 h2 h3 h4, depth_structVal_le _ _ 0 (by simp [depth]),
    by simp [deCallRequestParams, CallRequestParams.toVal, deStruct_req, deString_str, deByteBuf]⟩

theorem res_layout (r : CallServiceResult) (h1 : -(2 ^ 31) ≤ r.retCode ∧ r.retCode < 2 ^ 31)
    (h2 : (strBytes r.result).length < 2 ^ 32) :
    WF r.toVal ∧ depth r.toVal ≤ 1 ∧ deCallServiceResult r.toVal = some r := by
  have h' : -2147483648 ≤ r.retCode ∧ r.retCode < 2147483648 := by omega
  exact ⟨wf_structVal _ _ (by decide) (by simp [WF, h2]; omega) (by simp), depth_structVal_le _ _ 0 (by simp [depth]),
    by simp [deCallServiceResult, CallServiceResult.toVal, deStruct_res, deString_str, deI32, h']⟩

theorem tet_layout (t : Tetraplet) (h1 : (strBytes t.peerPk).length < 2 ^ 32) (h2 : (strBytes t.serviceId).length < 2 ^ 32)
    (h3 : (strBytes t.functionName).length < 2 ^ 32) (h4 : (strBytes t.lens).length < 2 ^ 32) :
    WF t.toVal ∧ depth t.toVal ≤ 1 ∧ deTetraplet t.toVal = some t :=
  ⟨wf_structVal4 _ _ _ _ _ (by decide) h1 h2 h3 h4, depth_structVal_le _ _ 0 (by simp [depth]),
    by simp [deTetraplet, Tetraplet.toVal, deStruct_tet, deString_str]⟩

theorem vec_layout {α : Type} (enc : α → Val) (de : Val → Option α) (n : Nat) (l : List α) (hlen : l.length < 2 ^ 32)
    (h : ∀ x ∈ l, WF (enc x) ∧ depth (enc x) ≤ n ∧ de (enc x) = some x) :
    WF (.arr (l.map enc)) ∧ depth (.arr (l.map enc)) ≤ 1 + n ∧ deVec de (.arr (l.map enc)) = some l :=
  ⟨⟨by simpa using hlen, (wfList_iff _).mpr (by simpa only [List.forall_mem_map] using fun x hx => (h x hx).1)⟩,
    Nat.add_le_add_left ((depthList_le_iff _ n).mpr
      (by simpa only [List.forall_mem_map] using fun x hx => (h x hx).2.1)) 1,
    mapM_map_some enc de l fun x hx => (h x hx).2.2⟩

theorem insertKV_fresh {κ β : Type} [BEq κ] [LawfulBEq κ] (k : κ) (v : β) (acc : List (κ × β))
    (h : k ∉ acc.map Prod.fst) : insertKV k v acc = acc ++ [(k, v)] := by
  induction acc with
  | nil => rfl
  | cons e rest ih =>
    obtain ⟨k', v'⟩ := e
    simp only [List.map_cons, List.mem_cons, not_or] at h
    have hne : (k' == k) = false := by
      rw [beq_eq_false_iff_ne]; exact fun e => h.1 e.symm
    simp [insertKV, hne, ih h.2]

theorem deEntries_encoded {κ β : Type} [BEq κ] [LawfulBEq κ] (deK : Val → Option κ) (deV : Val → Option β)
    (encK : κ → Val) (encV : β → Val) (m : List (κ × β)) :
    ∀ (acc : List (κ × β)),
    (∀ e ∈ m, deK (encK e.1) = some e.1 ∧ deV (encV e.2) = some e.2) →
    ((acc ++ m).map Prod.fst).Nodup →
    deEntries deK deV (m.map fun e => (encK e.1, encV e.2)) acc = some (acc ++ m) := by
  induction m with
  | nil => intro acc _ _; simp [deEntries]
  | cons e rest ih =>
    intro acc hde hnd
    obtain ⟨k, v⟩ := e
    have h1 := hde (k, v) (by simp)
    simp only [List.map_cons, deEntries, h1.1, h1.2]
    have hfresh : k ∉ acc.map Prod.fst := by
      intro hmem
      rw [List.map_append, List.map_cons] at hnd
      have := (List.nodup_append.mp hnd).2.2 k hmem k (by simp)
      exact this rfl
    rw [insertKV_fresh k v acc hfresh]
    have := ih (acc ++ [(k, v)]) (fun e he => hde e (List.mem_cons_of_mem _ he)) (by simpa [List.append_assoc] using hnd)
    simpa [List.append_assoc] using this

/-- `m` is the `HashMap<K, V>` in the iteration order it was written in. -/
theorem hashMap_roundtrip {κ β : Type} [BEq κ] [LawfulBEq κ] (codec : Nat) (hc : codec < 2 ^ 32)
    (encK : κ → Val) (encV : β → Val) (deK : Val → Option κ) (deV : Val → Option β) (n : Nat) (hn : 1 + n < maxDepth)
    (m : List (κ × β)) (hlen : m.length < 2 ^ 32) (hnd : (m.map Prod.fst).Nodup)
    (hk : ∀ e ∈ m, WF (encK e.1) ∧ depth (encK e.1) ≤ n ∧ deK (encK e.1) = some e.1)
    (hv : ∀ e ∈ m, WF (encV e.2) ∧ depth (encV e.2) ≤ n ∧ deV (encV e.2) = some e.2) :
    decodeMultiformat codec (fun b => (rmpParse b).bind (deHashMap deK deV))
      (encodeMultiformat codec (rmpWrite (.map (m.map fun e => (encK e.1, encV e.2))))) = .ok m := by
  have hwf : WF (.map (m.map fun e => (encK e.1, encV e.2))) :=
    ⟨by simpa using hlen, (wfPairs_iff _).mpr (by simpa only [List.forall_mem_map] using fun e he => ⟨(hk e he).1, (hv e he).1⟩)⟩
  have hd : depth (.map (m.map fun e => (encK e.1, encV e.2))) < maxDepth :=
    Nat.lt_of_le_of_lt (Nat.add_le_add_left ((depthPairs_le_iff _ n).mpr
      (by simpa only [List.forall_mem_map] using fun e he => ⟨(hk e he).2.1, (hv e he).2.1⟩)) 1) hn
  rw [decodeMultiformat_encodeMultiformat codec hc, rmpParse_rmpWrite' _ hwf hd]
  simp only [Option.bind_some, deHashMap,
    deEntries_encoded deK deV encK encV m [] (fun e he => ⟨(hk e he).2.2, (hv e he).2.2⟩) (by simpa using hnd),
    List.nil_append]

end AquaProps.Lemmas.Sede
