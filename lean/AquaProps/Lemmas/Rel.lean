import Aqua.Exec.Exec
/-!
What each combinator of the execution monad `M` returns on a context (the `_apply` equations and the
stepping rules for `>>=`), and on top of them the relational Hoare logic (DESIGN.md §5.1): `Rel R m` says
that whatever `m` returns (value, error or panic) the final context is `R`-related to the initial one.
-/
namespace AquaProps
open Aqua Aqua.Exec Aqua.Air Aqua.Trace

structure Preorder' (R : Ctx → Ctx → Prop) : Prop where
  refl : ∀ c, R c c
  trans : ∀ {a b c}, R a b → R b c → R a c

def Rel (R : Ctx → Ctx → Prop) {α : Type} (m : M α) : Prop := ∀ c, R c (m c).2

variable {R : Ctx → Ctx → Prop} {α β : Type}

theorem pure_apply (a : α) (c : Ctx) : (pure a : M α) c = (.ok a, c) := rfl
theorem readCtx_apply (f : Ctx → α) (c : Ctx) : readCtx f c = (.ok (f c), c) := rfl
theorem readER_apply (f : Ctx → ER α) (c : Ctx) : readER f c = (f c, c) := rfl
theorem modifyCtx_apply (f : Ctx → Ctx) (c : Ctx) : modifyCtx f c = (.ok (), f c) := rfl
theorem throwE_apply (e : ExecErr) (c : Ctx) : (throwE e : M α) c = (.error e, c) := rfl
theorem panicM_apply (s : String) (c : Ctx) : (panicM s : M α) c = (.panic s, c) := rfl
theorem reraise_apply (r : Res ExecErr α) (c : Ctx) : reraise r c = (r, c) := rfl
theorem tryM_apply (m : M α) (c : Ctx) : tryM m c = (.ok (m c).1, (m c).2) := rfl
theorem modifyER_apply (g : Ctx → ER Ctx) (c : Ctx) :
    modifyER g c = match g c with
      | .ok c' => (.ok (), c')
      | .error e => (.error e, c)
      | .panic s => (.panic s, c) := rfl
theorem stateER_apply (g : Ctx → ER (α × Ctx)) (c : Ctx) :
    stateER g c = match g c with
      | .ok (a, c') => (.ok a, c')
      | .error e => (.error e, c)
      | .panic s => (.panic s, c) := rfl
theorem onError_apply (m : M α) (f : ExecErr → Ctx → Ctx) (c : Ctx) :
    onError m f c = match m c with
      | (.error e, c') => (.error e, f e c')
      | r => r := rfl
theorem joinable_apply (m : M α) (c : Ctx) :
    joinable m c = match m c with
      | (.ok a, c') => (.ok (some a), c')
      | (.error e, c') => if e.isJoinable then (.ok none, { c' with subgraphComplete := false }) else (.error e, c')
      | (.panic s, c') => (.panic s, c') := rfl
theorem liftTH_apply (i : Instr) (f : TraceHandler → TR (α × TraceHandler)) (c : Ctx) :
    liftTH i f c = match f c.th with
      | .ok (a, th) => (.ok a, { c with th := th })
      | .error e => (.error (.uncatchable (.traceError e i.render)), c)
      | .panic s => (.panic s, c) := by
  unfold liftTH traceToExec
  rw [stateER_apply]
  rcases f c.th with ⟨a, th⟩ | e | s <;> rfl
theorem liftTH'_apply (i : Instr) (f : TraceHandler → TR TraceHandler) (c : Ctx) :
    liftTH' i f c = match f c.th with
      | .ok th => (.ok (), { c with th := th })
      | .error e => (.error (.uncatchable (.traceError e i.render)), c)
      | .panic s => (.panic s, c) := by
  unfold liftTH'
  rw [liftTH_apply]
  cases f c.th <;> rfl
theorem bind_apply (m : M α) (f : α → M β) (c : Ctx) :
    (m >>= f) c = match m c with
      | (.ok a, c') => f a c'
      | (.error e, c') => (.error e, c')
      | (.panic s, c') => (.panic s, c') := rfl

theorem bind_of_ok {m : M α} {f : α → M β} {c c' : Ctx} {a : α} (h : m c = (.ok a, c')) : (m >>= f) c = f a c' := by
  rw [bind_apply, h]
theorem bind_of_error {m : M α} {f : α → M β} {c c' : Ctx} {e : ExecErr} (h : m c = (.error e, c')) :
    (m >>= f) c = (.error e, c') := by
  rw [bind_apply, h]
theorem bind_of_panic {m : M α} {f : α → M β} {c c' : Ctx} {s : String} (h : m c = (.panic s, c')) :
    (m >>= f) c = (.panic s, c') := by
  rw [bind_apply, h]

theorem bind_modifyCtx (g : Ctx → Ctx) (f : Unit → M β) (c : Ctx) : (modifyCtx g >>= f) c = f () (g c) := rfl
theorem bind_readCtx (g : Ctx → α) (f : α → M β) (c : Ctx) : (readCtx g >>= f) c = f (g c) c := rfl
theorem bind_tryM (m : M α) (f : Res ExecErr α → M β) (c : Ctx) : (tryM m >>= f) c = f (m c).1 (m c).2 := rfl

theorem readER_of_ok {g : Ctx → ER α} {c : Ctx} {a : α} (h : g c = .ok a) : readER g c = (.ok a, c) := by
  rw [readER_apply, h]
theorem readER_of_error {g : Ctx → ER α} {c : Ctx} {e : ExecErr} (h : g c = .error e) : readER g c = (.error e, c) := by
  rw [readER_apply, h]
theorem modifyER_of_ok {g : Ctx → ER Ctx} {c c' : Ctx} (h : g c = .ok c') : modifyER g c = (.ok (), c') := by
  rw [modifyER_apply, h]
theorem stateER_of_ok {g : Ctx → ER (α × Ctx)} {c c' : Ctx} {a : α} (h : g c = .ok (a, c')) :
    stateER g c = (.ok a, c') := by
  rw [stateER_apply, h]
theorem joinable_of_ok {m : M α} {c c' : Ctx} {a : α} (h : m c = (.ok a, c')) : joinable m c = (.ok (some a), c') := by
  rw [joinable_apply, h]
theorem joinable_of_error {m : M α} {c c' : Ctx} {e : ExecErr} (h : m c = (.error e, c')) (hj : e.isJoinable = false) :
    joinable m c = (.error e, c') := by
  rw [joinable_apply, h]; simp [hj]

theorem bind_cases (m : M α) (f : α → M β) (c : Ctx) :
    (∃ a, (m c).1 = .ok a ∧ (m >>= f) c = f a (m c).2) ∨
    ((∀ b, ((m >>= f) c).1 ≠ .ok b) ∧ ((m >>= f) c).2 = (m c).2) := by
  rw [bind_apply]
  rcases m c with ⟨a | e | s, c'⟩
  · exact .inl ⟨a, rfl, rfl⟩
  · exact .inr ⟨nofun, rfl⟩
  · exact .inr ⟨nofun, rfl⟩

theorem bind_error_cases {m : M α} {f : α → M β} {c c' : Ctx} {e : ExecErr} (h : (m >>= f) c = (.error e, c')) :
    m c = (.error e, c') ∨ ∃ a c1, m c = (.ok a, c1) ∧ f a c1 = (.error e, c') := by
  rw [bind_apply] at h
  generalize m c = r at h ⊢
  obtain ⟨a | e0 | s, c1⟩ := r
  · exact .inr ⟨a, c1, rfl, h⟩
  · cases h; exact .inl rfl
  · cases h

theorem rel_pure (hR : Preorder' R) (a : α) : Rel R (pure a : M α) := fun c => hR.refl c

theorem rel_bind_pt (hR : Preorder' R) {m : M α} {f : α → M β} (c : Ctx) (hm : R c (m c).2)
    (hf : ∀ a, (m c).1 = .ok a → R (m c).2 ((f a) (m c).2).2) : R c ((m >>= f) c).2 := by
  rcases bind_cases m f c with ⟨a, ha, h⟩ | ⟨_, h⟩ <;> rw [h]
  · exact hR.trans hm (hf a ha)
  · exact hm

theorem rel_bind (hR : Preorder' R) {m : M α} {f : α → M β} (hm : Rel R m) (hf : ∀ a, Rel R (f a)) :
    Rel R (m >>= f) :=
  fun c => rel_bind_pt hR c (hm c) fun a _ => hf a _

theorem rel_readER (hR : Preorder' R) (f : Ctx → ER α) : Rel R (readER f) := fun c => hR.refl c
theorem rel_readCtx (hR : Preorder' R) (f : Ctx → α) : Rel R (readCtx f) := fun c => hR.refl c
theorem rel_throwE (hR : Preorder' R) (e : ExecErr) : Rel R (throwE e : M α) := fun c => hR.refl c
theorem rel_panicM (hR : Preorder' R) (s : String) : Rel R (panicM s : M α) := fun c => hR.refl c
theorem rel_reraise (hR : Preorder' R) (r : Res ExecErr α) : Rel R (reraise r) := fun c => hR.refl c

theorem rel_modifyCtx {f : Ctx → Ctx} (h : ∀ c, R c (f c)) : Rel R (modifyCtx f) := fun c => h c

theorem rel_modifyER_at (hR : Preorder' R) {f : Ctx → ER Ctx} (c : Ctx) (h : ∀ c', f c = .ok c' → R c c') :
    R c ((modifyER f) c).2 := by
  rw [modifyER_apply]
  cases hf : f c with
  | ok c' => exact h c' hf
  | _ => exact hR.refl c

theorem rel_modifyER (hR : Preorder' R) {f : Ctx → ER Ctx} (h : ∀ c c', f c = .ok c' → R c c') : Rel R (modifyER f) :=
  fun c => rel_modifyER_at hR c (h c)

theorem rel_stateER (hR : Preorder' R) {f : Ctx → ER (α × Ctx)} (h : ∀ c a c', f c = .ok (a, c') → R c c') : Rel R (stateER f) := by
  intro c
  rw [stateER_apply]
  cases hf : f c with
  | ok p => exact h c p.1 p.2 hf
  | _ => exact hR.refl c

theorem rel_tryM {m : M α} (hm : Rel R m) : Rel R (tryM m) := fun c => hm c

theorem rel_joinable (hR : Preorder' R) {m : M α} (hm : Rel R m)
    (hinc : ∀ c, R c { c with subgraphComplete := false }) : Rel R (joinable m) := by
  intro c
  have h1 := hm c
  rw [joinable_apply]
  generalize m c = r at h1 ⊢
  obtain ⟨a | e | s, c'⟩ := r
  · exact h1
  · dsimp only; split
    · exact hR.trans h1 (hinc c')
    · exact h1
  · exact h1

theorem rel_bind_readER (hR : Preorder' R) {g : Ctx → ER α} {f : α → M β}
    (hf : ∀ c a, g c = .ok a → R c ((f a) c).2) : Rel R (readER g >>= f) :=
  fun c => rel_bind_pt hR c (hR.refl c) (hf c)

theorem rel_bind_joinable_readER (hR : Preorder' R) (hinc : ∀ c, R c { c with subgraphComplete := false })
    {g : Ctx → ER α} {f : Option α → M β} (hnone : Rel R (f none))
    (hf : ∀ c a, g c = .ok a → R c ((f (some a)) c).2) : Rel R (joinable (readER g) >>= f) := by
  intro c
  rw [bind_apply, joinable_apply, readER_apply]
  cases hg : g c with
  | ok a => exact hf c a hg
  | error e =>
    dsimp only
    by_cases hj : e.isJoinable = true
    · rw [if_pos hj]; exact hR.trans (hinc c) (hnone _)
    · rw [if_neg hj]; exact hR.refl c
  | panic s => exact hR.refl c

theorem rel_onError (hR : Preorder' R) {m : M α} {f : ExecErr → Ctx → Ctx} (hm : Rel R m) (hf : ∀ e c, R c (f e c)) :
    Rel R (onError m f) := by
  intro c
  have h1 := hm c
  rw [onError_apply]
  generalize m c = r at h1 ⊢
  obtain ⟨a | e | s, c'⟩ := r
  · exact h1
  · exact hR.trans h1 (hf e c')
  · exact h1

theorem rel_liftTH_of (hR : Preorder' R) (i : Instr) (f : TraceHandler → TR (α × TraceHandler))
    (h : ∀ c a th', f c.th = .ok (a, th') → R c { c with th := th' }) : Rel R (liftTH i f) := by
  refine rel_stateER hR fun c a c' hc => ?_
  obtain ⟨⟨a', th'⟩, hf, hc⟩ := Res.bind_eq_ok'.mp hc
  cases hc
  exact h c a th' (Res.mapErr_eq_ok.mp hf)

theorem rel_liftTH'_of (hR : Preorder' R) (i : Instr) (f : TraceHandler → TR TraceHandler)
    (h : ∀ c th', f c.th = .ok th' → R c { c with th := th' }) : Rel R (liftTH' i f) := by
  refine rel_liftTH_of hR i _ fun c a th' hc => ?_
  obtain ⟨th'', hf, hc⟩ := Res.bind_eq_ok'.mp hc
  cases hc
  exact h c th' hf

theorem rel_liftTH (hR : Preorder' R) (i : Instr) (f : TraceHandler → TR (α × TraceHandler))
    (hth : ∀ c th, R c { c with th := th }) : Rel R (liftTH i f) :=
  rel_liftTH_of hR i f fun c _ th' _ => hth c th'

theorem rel_liftTH' (hR : Preorder' R) (i : Instr) (f : TraceHandler → TR TraceHandler)
    (hth : ∀ c th, R c { c with th := th }) : Rel R (liftTH' i f) :=
  rel_liftTH'_of hR i f fun c th' _ => hth c th'

end AquaProps
