import AquaProps.Lemmas.TraceFoldOps
/-!
What each `meet_*` transition of the trace handler does to the *result trace* and to the positions reserved by
open `par`s and folds, in one uniform shape (`TraceStep`) — for every handler state (nothing is assumed about the
sliders or the previous/current traces).
-/
namespace AquaProps
open Aqua Aqua.Data Aqua.Trace

theorem mapErr_ok {ε ε' α : Type} {f : ε → ε'} {x : Res ε α} {a : α} (h : x.mapErr f = .ok a) : x = .ok a :=
  Res.mapErr_eq_ok.mp h

theorem meetCallStart_frame {h h' : TraceHandler} {m : MergerCallResult} (hm : h.meetCallStart = .ok (m, h')) :
    h'.keeper.resultTrace = h.keeper.resultTrace ∧ h'.parStack = h.parStack :=
  let ⟨ht, hs, _⟩ := meetCallStart_eff hm; ⟨ht, hs⟩

theorem setCtor_pos (f : FoldFSM) (i : Nat) (c : SubTraceLoreCtor) : (f.setCtor i c).inserterPos = f.inserterPos := rfl

/-- entries that carry no content id: the placeholders / final forms of `par` and `fold` -/
def Neutral : ExecutedState → Prop
  | .par _ _ => True
  | .fold _ => True
  | _ => False

/-- positions reserved by the open pars and folds (their `StateInserter`s) -/
def inserters (h : TraceHandler) : List Nat := h.parStack.map (·.inserterPos) ++ h.foldMap.map (·.2.inserterPos)

/-- what a transition may do: nothing, reserve a new placeholder at the end, or fill a reserved position
with a neutral entry; the set of reserved positions only changes accordingly -/
inductive TraceStep (h h' : TraceHandler) : Prop where
  | same (ht : h'.keeper.resultTrace = h.keeper.resultTrace) (hi : ∀ p ∈ inserters h', p ∈ inserters h)
  | reserve (ht : h'.keeper.resultTrace = h.keeper.resultTrace ++ [.par 0 0])
      (hi : ∀ p ∈ inserters h', p ∈ inserters h ∨ p = h.keeper.resultTrace.length)
  | fill (p : Nat) (st : ExecutedState) (hp : p ∈ inserters h) (hn : Neutral st)
      (ht : h'.keeper.resultTrace = h.keeper.resultTrace.set p st) (hi : ∀ q ∈ inserters h', q ∈ inserters h)

variable {h h' : TraceHandler}

theorem TraceStep.quiet (e : h'.tr = h.tr ∧ h'.parStack = h.parStack ∧ h'.foldMap = h.foldMap) :
    TraceStep h h' :=
  .same e.1 fun p hp => by rwa [inserters, e.2.1, e.2.2] at hp

theorem step_meetCallStart {m : MergerCallResult} (hm : h.meetCallStart = .ok (m, h')) : TraceStep h h' :=
  .quiet (meetCallStart_eff hm)

theorem step_meetApStart {m : MergerApResult} (hm : h.meetApStart = .ok (m, h')) : TraceStep h h' :=
  .quiet (meetApStart_eff hm)

theorem step_meetCanonStart {m : MergerCanonResult} (hm : h.meetCanonStart = .ok (m, h')) : TraceStep h h' :=
  .quiet (meetCanonStart_eff hm)

theorem step_meetParStart (hm : h.meetParStart = .ok h') : TraceStep h h' := by
  obtain ⟨f, hst, hip, _, ht, hfm⟩ := meetParStart_eff hm
  refine .reserve ht fun p hp => ?_
  rw [inserters, hst, hfm, List.map_cons, List.cons_append, List.mem_cons] at hp
  exact hp.elim (fun hp => .inr (hp.trans hip)) .inl

theorem step_meetParSubgraphEnd {t : SubgraphType} (hm : h.meetParSubgraphEnd t = .ok h') : TraceStep h h' := by
  cases t with
  | left =>
    obtain ⟨f, rest, hst, hst', ht, hfm⟩ := meetParSubgraphEnd_left_eff hm
    refine .same ht fun p hp => ?_
    rw [inserters, hst', hfm] at hp
    rw [inserters, hst]; exact hp
  | right =>
    obtain ⟨f, rest, hst, hst', ht, hfm⟩ := meetParSubgraphEnd_right_eff hm
    refine .fill f.inserterPos (.par _ _) ?_ trivial ht fun p hp => ?_
    · rw [inserters, hst]; exact List.mem_cons_self
    · rw [inserters, hst', hfm] at hp
      rw [inserters, hst]; exact List.mem_cons_of_mem _ hp

theorem mem_map_filter {α β : Type} {g : α → β} {q : α → Bool} {l : List α} {b : β} (h : b ∈ (l.filter q).map g) :
    b ∈ l.map g :=
  let ⟨x, hx, hb⟩ := List.mem_map.mp h; List.mem_map.mpr ⟨x, (List.mem_filter.mp hx).1, hb⟩

theorem step_meetFoldStart {id : Nat} (hm : h.meetFoldStart id = .ok h') : TraceStep h h' := by
  obtain ⟨f, ht, hs, hfm, hip, _⟩ := meetFoldStart_eff hm
  refine .reserve ht fun p hp => ?_
  rw [inserters, hs, hfm, List.map_cons, List.mem_append, List.mem_cons] at hp
  rcases hp with hp | hp | hp
  · exact .inl (List.mem_append_left _ hp)
  · exact .inr (hp.trans hip)
  · exact .inl (List.mem_append_right _ (mem_map_filter hp))

theorem step_foldUpdate {h : TraceHandler} {id : Nat} {f f' : FoldFSM} {k' : DataKeeper} (hf : h.fsm id = some f)
    (ht : k'.resultTrace = h.keeper.resultTrace) (hpos : f'.inserterPos = f.inserterPos) :
    TraceStep h (({ h with keeper := k' }).setFold id f') := by
  refine .same ht fun p hp => ?_
  simp only [inserters, TraceHandler.setFold, List.mem_append, List.mem_map] at hp ⊢
  rcases hp with hp | ⟨_, ⟨⟨i, g⟩, hy, rfl⟩, rfl⟩
  · exact .inl hp
  · right
    split
    · exact ⟨(id, f), mem_of_lookupFsm hf, hpos.symm⟩
    · exact ⟨(i, g), hy, rfl⟩

theorem step_meetIterationStart {id pos : Nat} (hm : h.meetIterationStart id pos = .ok h') : TraceStep h h' := by
  obtain ⟨f, f', k', hf, hk, rfl⟩ := meetIterationStart_eff hm
  obtain ⟨ht, hip, _⟩ := FoldFSM.meetIterationStart_eff hk
  exact step_foldUpdate hf ht hip

theorem step_meetIterationEnd {id : Nat} (hm : h.meetIterationEnd id = .ok h') : TraceStep h h' := by
  obtain ⟨f, f', hf, hk, rfl⟩ := meetIterationEnd_eff hm
  obtain ⟨_, _, _, _, _, hip, _⟩ := FoldFSM.meetIterationEnd_eff hk
  exact step_foldUpdate (k' := h.keeper) hf rfl hip

theorem step_meetGenerationEnd {id : Nat} (hm : h.meetGenerationEnd id = .ok h') : TraceStep h h' := by
  obtain ⟨f, f', hf, hk, rfl⟩ := meetGenerationEnd_eff hm
  obtain ⟨_, _, _, _, _, _, hip⟩ := FoldFSM.meetGenerationEnd_eff hk
  exact step_foldUpdate (k' := h.keeper) hf rfl hip

theorem step_meetBackIterator {id : Nat} (hm : h.meetBackIterator id = .ok h') : TraceStep h h' := by
  obtain ⟨f, f', k', hf, hk, rfl⟩ := meetBackIterator_eff hm
  obtain ⟨ht, hip⟩ := FoldFSM.meetBackIterator_frame hk
  exact step_foldUpdate hf ht hip

theorem step_meetFoldEnd {id : Nat} (hm : h.meetFoldEnd id = .ok h') : TraceStep h h' := by
  obtain ⟨f, hf, ht, hs, hfm⟩ := meetFoldEnd_eff hm
  refine .fill f.inserterPos (.fold _) ?_ trivial ht fun p hp => ?_
  · exact List.mem_append_right _ (List.mem_map.mpr ⟨(id, f), mem_of_lookupFsm hf, rfl⟩)
  · rw [inserters, hs, hfm, List.mem_append] at hp
    exact List.mem_append.mpr (hp.imp_right mem_map_filter)

end AquaProps
