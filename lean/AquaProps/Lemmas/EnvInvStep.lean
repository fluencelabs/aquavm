import AquaProps.Lemmas.EnvInvExec
/-!
The bind combinators for values whose justification was read earlier (`step_bind_guard`, `GRel`), and `Step env`
for the primitives that do not involve the trace or the stream store: error descriptors, `fail`, `ap` into a
scalar, the scalar-store updates of `fold` / `next` / `new`.  `ap` and scalar folds bind what the resolver returns
(`applyToArg_resolve`, `createScalarIterable_scalar` / `_scalarWL`), so their values are justified by `resolve_ok`.
-/
namespace AquaProps
open Aqua Aqua.Exec Aqua.Air Aqua.Trace Aqua.Json Aqua.Data

variable {env : Env}

/-- a fact `G` about values read earlier — they are justified by the CID stores, which only grow — is available
again after a computation (and needs to be established under the invariant only) -/
theorem step_bind_guard {α β : Type} {G : Ctx → Prop} (hG : ∀ {c c' : Ctx}, KeysGrow c.cid c'.cid → G c → G c')
    {m : M α} {f : α → M β} (c : Ctx) (hc : EnvInv env c → G c) (hm : Step env c (m c).2)
    (hf : ∀ a c', G c' → Step env c' ((f a) c').2) : Step env c ((m >>= f) c).2 :=
  fun hi => rel_bind_pt step_preorder c hm (fun a _ => hf a _ (hG (hm hi).grow (hc hi))) hi

def GRel (env : Env) (G : Ctx → Prop) {α : Type} (m : M α) : Prop := ∀ c, G c → Step env c (m c).2

theorem grel_of_rel {α : Type} {G : Ctx → Prop} {m : M α} (h : Rel (Step env) m) : GRel env G m := fun c _ => h c

theorem grel_bind {α β : Type} {G : Ctx → Prop} (hG : ∀ {c c' : Ctx}, KeysGrow c.cid c'.cid → G c → G c') {m : M α} {f : α → M β}
    (hm : GRel env G m) (hf : ∀ a, GRel env G (f a)) : GRel env G (m >>= f) :=
  fun c hg => step_bind_guard hG c (fun _ => hg) (hm c hg) fun a c' hg' => hf a c' hg'

theorem step_of_guard {α : Type} {G : Ctx → Prop} {m : M α} {c : Ctx} (hc : EnvInv env c → G c) (hm : GRel env G m) :
    Step env c (m c).2 := fun hi => hm c (hc hi) hi

theorem step_scalars {c : Ctx} {sc : Scalars} (h : EnvInv env c → ScalarsOK (PairOK env c.cid) sc) :
    Step env c { c with scalars := sc } :=
  step_keep fun hi => { hi with scalars := h hi }

theorem errOK_ite {P : TP} {b : Prop} [Decidable b] {x y : ErrDescriptor} (hx : ErrOK P x.error) (hy : ErrOK P y.error) :
    ErrOK P (if b then x else y).error := by
  split <;> assumption

/-- each descriptor is either replaced by a literal error or kept -/
theorem step_setErrors (c : Ctx) (e : CatchableErr) (i : String) (t : Option Tetraplet) (b : Bool) :
    Step env c (c.setErrors e i t b) :=
  have hP := pairOK_closed env c.cid
  step_keep fun h => { h with error := errOK_ite (errOK_literal hP _ _ _) h.error,
                              lastError := errOK_ite (errOK_literal hP _ _ _) h.lastError }

theorem step_setErrorsOf (e : ExecErr) (i : Instr) (c : Ctx) : Step env c (c.setErrorsOf e i) :=
  setErrorsOf_cases e i c (step_refl c) (step_setErrors c)

theorem step_callSetErrors (i : Instr) (t : Option Tetraplet) (e : ExecErr) (c : Ctx) : Step env c (callSetErrors i t e c) :=
  callSetErrors_cases i t e c (step_refl c) (step_setErrors c)

/-- only `origCatchable` and the flags change, which `ErrOK` does not look at -/
theorem step_xorEnterRight (e : CatchableErr) (c : Ctx) : Step env c (xorEnterRight e c) :=
  step_keep fun h => ⟨h.keyed, h.scalars, h.streams, h.error, h.lastError⟩

theorem step_xorLeaveRight (b : Bool) (c : Ctx) : Step env c (xorLeaveRight b c) := by
  have h1 : Step env c (if c.error.canBeSet then { c with error := { c.error with error := noError } } else c) := by
    split
    · exact step_keep fun h => { h with error := errOK_literal (pairOK_closed env c.cid) _ _ _ }
    · exact step_refl c
  have h2 : ∀ c1 : Ctx, Step env c1 (if b then { c1 with error := { c1.error with canBeSet := true } } else c1) := by
    intro c1
    split
    · exact step_same
    · exact step_refl c1
  exact step_preorder.trans h1 (h2 _)

theorem step_failWithErrorObject_at (c : Ctx) (v : JVal) (t : Option Tetraplet) (p : Provenance)
    (h : EnvInv env c → ErrOK (PairOK env c.cid) ⟨v, t, p, none⟩) : Step env c ((failWithErrorObject v t p) c).2 :=
  rel_bind_pt step_preorder c (step_keep fun hi => { hi with lastError := h hi }) fun _ _ => step_refl _

theorem failOperand_ok {c : Ctx} (hi : EnvInv env c) {arg : FailArg} {v : JVal} {t : Option Tetraplet} {p : Provenance}
    (h : failOperand c arg = .ok (v, t, p)) : ErrOK (PairOK env c.cid) ⟨v, t, p, none⟩ := by
  have hP := pairOK_closed env c.cid
  cases arg with
  | scalar n | scalarWL n l | canonWL n l =>
    obtain ⟨⟨v', ts, p'⟩, hr, h⟩ := Res.bind_eq_ok.mp h
    obtain ⟨_, _, h⟩ := Res.bind_eq_ok.mp h
    cases h
    rcases resolve_ok hi hr with hn | ⟨t, rfl, ht⟩
    · cases ts with
      | nil => exact hn
      | cons t _ => exact hP.nonService _ _ hn
    · exact ht
  | literal code msg => cases h; exact errOK_literal hP _ _ _
  | lastError =>
    obtain ⟨_, _, h⟩ := Res.bind_eq_ok.mp h
    cases h; exact hi.lastError
  | error =>
    obtain ⟨_, _, h⟩ := Res.bind_eq_ok.mp h
    cases h; exact hi.error

theorem step_execFail (arg : FailArg) : Rel (Step env) (execFail arg) := by
  unfold execFail
  apply rel_bind_readER step_preorder
  rintro c ⟨v, t, p⟩ hr
  have hfail := step_failWithErrorObject_at (env := env) c v t p fun hi => failOperand_ok hi hr
  split
  · -- `fail :error:`: the first bind only reads
    refine rel_bind_pt step_preorder c (step_refl c) fun orig _ => ?_
    refine rel_bind_pt step_preorder c hfail fun res _ => ?_
    refine rel_bind step_preorder (rel_modifyCtx fun _ => step_same) (fun _ => ?_) _
    split
    · exact rel_throwE step_preorder _
    · exact rel_reraise step_preorder _
  · exact hfail

theorem applyToArg_resolve {c : Ctx} {arg : Value} {va : ValueAggregate} (h : applyToArg c arg = .ok va) :
    (∃ cid, va.provenance = .canon cid) ∨
    ∃ v t rest p, resolveValue c arg = .ok (v, t :: rest, p) ∧ va.provenance = p ∧ Carries va t := by
  cases arg with
  | initPeerId | literal _ | timestamp | ttl | number _ | float _ | boolean _ | emptyArray =>
    cases h
    exact Or.inr ⟨_, _, [], _, rfl, rfl, carries_self _⟩
  | error l | lastError l | scalarWL n l | canonWL n l | canonMapWL n l =>
    obtain ⟨⟨v, ts, p⟩, hr, h⟩ := Res.bind_eq_ok.mp h
    cases ts with
    | nil => cases h
    | cons t rest => cases h; exact Or.inr ⟨v, t, rest, p, hr, new_provenance .., carries_new ..⟩
  | scalar n =>
    obtain ⟨r, hg, h⟩ := Res.bind_eq_ok.mp h
    cases r with
    | value v =>
      cases h
      exact Or.inr ⟨_, _, [], _, Res.bind_eq_ok.mpr ⟨_, hg, rfl⟩, rfl, carries_self _⟩
    | iterableValue f =>
      obtain ⟨⟨x1, t1, pos1, p1⟩, hk, h⟩ := Res.bind_eq_ok.mp h
      cases h
      have hp : (ScalarRef.iterableValue f).parts = .ok (x1, t1, p1) := Res.bind_eq_ok.mpr ⟨_, hk, rfl⟩
      exact Or.inr ⟨_, _, [], _, Res.bind_eq_ok.mpr ⟨_, hg, Res.bind_eq_ok.mpr ⟨_, hp, rfl⟩⟩, new_provenance .., carries_new ..⟩
  | canon n | canonMap n =>
    obtain ⟨cs, _, h⟩ := Res.bind_eq_ok.mp h
    cases h
    exact Or.inl ⟨_, new_provenance ..⟩

theorem carries_ok {c : Ctx} (hi : EnvInv env c) {arg : Value} {v : JVal} {t : Tetraplet} {rest : List Tetraplet} {p : Provenance}
    {va : ValueAggregate} (hr : resolveValue c arg = .ok (v, t :: rest, p)) (hp : va.provenance = p) (hc : Carries va t) :
    AggP (PairOK env c.cid) va := by
  show PairOK env c.cid va.tetraplet va.provenance
  rcases resolve_ok hi hr with hn | ⟨t', ht', hok⟩
  · exact (pairOK_closed env c.cid).nonService _ _ (hp ▸ hn)
  · cases ht'
    cases hpv : va.provenance with
    | serviceResult k => rw [hc.1 k hpv, ← hpv, hp]; exact hok
    | _ => trivial

theorem applyToArg_ok {c : Ctx} (hi : EnvInv env c) {arg : Value} {va : ValueAggregate} (h : applyToArg c arg = .ok va) :
    AggP (PairOK env c.cid) va := by
  rcases applyToArg_resolve h with ⟨cid, hc⟩ | ⟨v, t, rest, p, hr, hp, hc⟩
  · show PairOK env c.cid va.tetraplet va.provenance
    rw [hc]; trivial
  · exact carries_ok hi hr hp hc

theorem step_withScalars {c c' : Ctx} {g : Scalars → ER Scalars} (h : withScalars c g = .ok c')
    (hg : ∀ sc, EnvInv env c → g c.scalars = .ok sc → ScalarsOK (PairOK env c.cid) sc) : Step env c c' := by
  obtain ⟨sc, hs, h⟩ := Res.bind_eq_ok'.mp h
  cases h
  exact step_scalars fun hi => hg sc hi hs

theorem step_withScalarsRet {α : Type} {c c' : Ctx} {a : α} {g : Scalars → ER (α × Scalars)} (h : withScalarsRet c g = .ok (a, c'))
    (hg : ∀ a sc, EnvInv env c → g c.scalars = .ok (a, sc) → ScalarsOK (PairOK env c.cid) sc) : Step env c c' := by
  obtain ⟨⟨a', sc⟩, hs, h⟩ := Res.bind_eq_ok'.mp h
  cases h
  exact step_scalars fun hi => hg _ sc hi hs

theorem step_execAp (arg : Value) (out : CallOutput) : Rel (Step env) (execAp arg out) := by
  unfold execAp
  split
  · apply rel_bind_joinable_readER step_preorder (step_flag false)
    · exact rel_pure step_preorder _
    · intro c va h
      refine rel_modifyER_at step_preorder c fun c' h' => ?_
      exact step_withScalars h' fun sc hi hs => setScalarValue_ok hi.scalars (applyToArg_ok hi h) hs
  · exact rel_throwE step_preorder _

/-- `Carries` rather than equality: an item of an enclosing fold goes through `ValueAggregate::new` -/
theorem createScalarIterable_scalar {c : Ctx} {n : String} {itv : IterableValue}
    (h : createScalarIterable c (.scalar n) = .ok (some itv)) :
    ∃ v t p va l, resolveValue c (.scalar n) = .ok (v, [t], p) ∧ itv = .resolvedCall va 0 l ∧ va.provenance = p ∧ Carries va t := by
  have hfrom : ∀ (va : ValueAggregate),
      (match va.result with
        | .arr a => if a.isEmpty then (.ok none : ER (Option IterableValue)) else .ok (some (.resolvedCall va 0 a.length))
        | other => catchable (.foldIteratesOverNonArray other n)) = .ok (some itv) → ∃ l, itv = .resolvedCall va 0 l := by
    intro va hm
    split at hm
    · split at hm <;> cases hm
      exact ⟨_, rfl⟩
    · cases hm
  obtain ⟨r, hg, h⟩ := Res.bind_eq_ok.mp h
  cases r with
  | value v =>
    obtain ⟨l, rfl⟩ := hfrom v h
    exact ⟨v.result, v.tetraplet, v.provenance, v, l, Res.bind_eq_ok.mpr ⟨_, hg, rfl⟩, rfl, rfl, carries_self v⟩
  | iterableValue f =>
    obtain ⟨⟨x1, t1, pos1, p1⟩, hk, h⟩ := Res.bind_eq_ok.mp h
    obtain ⟨l, rfl⟩ := hfrom _ h
    have hp : (ScalarRef.iterableValue f).parts = .ok (x1, t1, p1) := Res.bind_eq_ok.mpr ⟨_, hk, rfl⟩
    exact ⟨x1, t1, p1, _, l, Res.bind_eq_ok.mpr ⟨_, hg, Res.bind_eq_ok.mpr ⟨_, hp, rfl⟩⟩, rfl, new_provenance .., carries_new ..⟩

theorem createScalarIterable_scalarWL {c : Ctx} {n : String} {l : Lambda} {itv : IterableValue}
    (h : createScalarIterable c (.scalarWL n l) = .ok (some itv)) :
    ∃ v t p a, resolveValue c (.scalarWL n l) = .ok (v, [t], p) ∧ itv = .lambdaResult a t p 0 := by
  obtain ⟨r, hg, h⟩ := Res.bind_eq_ok.mp h
  obtain ⟨⟨v', t', p'⟩, hp, h⟩ := Res.bind_eq_ok.mp h
  obtain ⟨sel, hs, h⟩ := Res.bind_eq_ok.mp h
  split at h
  · split at h <;> cases h
    exact ⟨_, _, _, _, Res.bind_eq_ok.mpr ⟨_, hg, Res.bind_eq_ok.mpr ⟨_, hp, Res.bind_eq_ok.mpr ⟨_, hs, rfl⟩⟩⟩, rfl⟩
  · cases h

theorem createScalarIterable_ok {c : Ctx} (hi : EnvInv env c) {iterable : Value} {itv : IterableValue}
    (h : createScalarIterable c iterable = .ok (some itv)) : IterOK (PairOK env c.cid) itv := by
  have hP := pairOK_closed env c.cid
  cases iterable with
  | scalar n =>
    obtain ⟨v, t, p, va, l, hr, rfl, hp, hc⟩ := createScalarIterable_scalar h
    exact carries_ok hi hr hp hc
  | scalarWL n l =>
    obtain ⟨v, t, p, a, hr, rfl⟩ := createScalarIterable_scalarWL h
    rcases resolve_ok hi hr with hn | ⟨t', ht', hok⟩
    · exact hP.nonService _ _ hn
    · cases ht'; exact hok
  | canon n =>
    obtain ⟨cs, hg, h⟩ := Res.bind_eq_ok.mp h
    split at h <;> cases h
    exact getCanonStream_ok hi.scalars hg
  | canonMap n =>
    obtain ⟨cm, hg, h⟩ := Res.bind_eq_ok.mp h
    split at h <;> cases h
    exact fun x hx => getCanonMap_ok hi.scalars hg x (mem_lastPairPerKey hx)
  | canonMapWL n l =>
    obtain ⟨cm, hg, h⟩ := Res.bind_eq_ok.mp h
    split at h
    · cases h
    · obtain ⟨sel, _, h⟩ := Res.bind_eq_ok.mp h
      split at h
      · split at h <;> cases h
        trivial
      · cases h
  -- not iterable
  | _ => cases h

theorem step_foldEnter {c c' : Ctx} {iterator : String} {fs : FoldState} (h : foldEnter iterator fs c = .ok c')
    (hf : EnvInv env c → IterOK (PairOK env c.cid) fs.iterable) : Step env c c' :=
  step_withScalars h fun _ hi hs => setIterableValue_ok (s_meetFoldStart_ok hi.scalars) (hf hi) hs

theorem step_foldLeave {c c' : Ctx} (iterator : String) (h : foldLeave iterator c = .ok c') : Step env c c' :=
  step_withScalars h fun _ hi hs => s_meetFoldEnd_ok (removeIterableValue_ok iterator hi.scalars) hs

theorem step_nextAdvance {c c' : Ctx} {iterator : String} {r : Option FoldState} (h : nextAdvance iterator c = .ok (r, c')) : Step env c c' := by
  refine step_withScalarsRet h fun a sc hi hs => ?_
  obtain ⟨fs, hg, hs⟩ := Res.bind_eq_ok.mp hs
  have hit := iterOK_next (getIterable_ok hi.scalars hg)
  split at hs
  rename_i moved it' hn
  rw [hn] at hit
  split at hs <;> cases hs
  · exact hi.scalars
  · exact s_meetNextBefore_ok (setIterableState_ok iterator hi.scalars hit)

theorem step_nextAfter {c c' : Ctx} (h : nextAfter c = .ok c') : Step env c c' :=
  step_withScalars h fun _ hi hs => s_meetNextAfter_ok hi.scalars hs

theorem step_nextBack {c c' : Ctx} {iterator : String} (h : nextBack iterator c = .ok c') : Step env c c' := by
  refine step_withScalars h fun sc hi hs => ?_
  obtain ⟨fs, hg, hs⟩ := Res.bind_eq_ok.mp hs
  have hit := iterOK_prev (getIterable_ok hi.scalars hg)
  split at hs
  rename_i moved it hp
  rw [hp] at hit
  cases hs
  exact setIterableState_ok iterator hi.scalars hit

end AquaProps
