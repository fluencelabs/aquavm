import AquaProps.Lemmas.Rel
/-!
An invariant `I` of the execution monad, seen as the relation `Keeps I c c' := I c → I c'`: a preorder,
so the rules of `Rel.lean` apply to invariants as they stand (`pres_iff_rel`).
-/
namespace AquaProps
open Aqua Aqua.Exec Aqua.Air Aqua.Trace Aqua.Json

def Keeps (I : Ctx → Prop) : Ctx → Ctx → Prop := fun c c' => I c → I c'

theorem keeps_preorder (I : Ctx → Prop) : Preorder' (Keeps I) where
  refl _ := id
  trans h1 h2 := fun h => h2 (h1 h)

def Pres (I : Ctx → Prop) {α : Type} (m : M α) : Prop := ∀ c, I c → I (m c).2

theorem pres_iff_rel {I : Ctx → Prop} {α : Type} (m : M α) : Pres I m ↔ Rel (Keeps I) m := Iff.rfl

end AquaProps
