import Aqua.Air.Validator
/-!
Specification-side vocabulary for C23 (which names an action "uses", "defines") and the lemmas
about the validator model the C23 theorems rest on.
-/
namespace Aqua.Air
open VariableValidator

/-- variable names of an operand that the validator looks at: the variable and the scalars its lens
indexes with; nothing for `%last_error%` / `:error:` -/
def Value.visitedNames : Value → List String
  | .scalar n | .canon n | .canonMap n => [n]
  | .scalarWL n l | .canonWL n l | .canonMapWL n l => n :: l.scalarNames
  | _ => []

/-- every variable name an operand mentions, the lens of `%last_error%` / `:error:` included -/
def Value.allNames : Value → List String
  | .lastError (some l) | .error (some l) => l.scalarNames
  | v => v.visitedNames

def FailArg.allNames : FailArg → List String
  | .scalar n => [n]
  | .scalarWL n l | .canonWL n l => n :: l.scalarNames
  | _ => []

def Event.span : Event → Span
  | .call sp .. | .seq sp | .par sp | .xor sp | .match_ sp .. | .mismatch sp .. | .ap sp .. | .apMap sp ..
  | .canon sp .. | .canonMap sp .. | .canonMapScalar sp .. | .fold sp .. | .next sp .. | .new sp ..
  | .fail sp .. | .null sp | .never sp => sp
  | .error => ⟨0, 0⟩

/-- the operand positions the validator visits: call triplet and arguments, match/mismatch operands,
`ap` argument, key of `ap` into a map, fold iterable (scalar, canon, stream, map) -/
def Event.visitedUses : Event → List String
  | .call _ p s f a _ => p.visitedNames ++ s.visitedNames ++ f.visitedNames ++ a.flatMap Value.visitedNames
  | .match_ _ a b | .mismatch _ a b => a.visitedNames ++ b.visitedNames
  | .ap _ a _ => a.visitedNames
  | .apMap _ k _ _ => k.visitedNames
  | .fold _ (.scalar v) _ _ => v.visitedNames
  | .fold _ (.stream n _) _ _ | .fold _ (.streamMap n _) _ _ => [n]
  | _ => []

/-- every operand position: additionally the operand of `fail`, the peer and the source stream/map of
`canon`, the value of `ap` into a map, and the lenses of `%last_error%` / `:error:` everywhere -/
def Event.allUses : Event → List String
  | .call _ p s f a _ => p.allNames ++ s.allNames ++ f.allNames ++ a.flatMap Value.allNames
  | .match_ _ a b | .mismatch _ a b => a.allNames ++ b.allNames
  | .ap _ a _ => a.allNames
  | .apMap _ k v _ => k.allNames ++ v.allNames
  | .canon _ p s _ | .canonMap _ p s _ | .canonMapScalar _ p s _ => p.allNames ++ [s]
  | .fold _ (.scalar v) _ _ => v.allNames
  | .fold _ (.stream n _) _ _ | .fold _ (.streamMap n _) _ _ => [n]
  | .fail _ a => a.allNames
  | _ => []

/-- names an instruction defines: call output, `ap` result, the map of `ap` into a map, `canon`
result, the variable of `new` -/
def Event.varDefs : Event → List String
  | .call _ _ _ _ _ (.scalar n) | .call _ _ _ _ _ (.stream n _) => [n]
  | .ap _ _ r => [r.name]
  | .apMap _ _ _ m => [m]
  | .canon _ _ _ c | .canonMap _ _ _ c | .canonMapScalar _ _ _ c => [c]
  | .new _ a => [a.name]
  | _ => []

theorem Value.visitedNames_subset_allNames (v : Value) : ∀ n ∈ v.visitedNames, n ∈ v.allNames := by
  cases v with
  | lastError l | error l => exact fun _ => nofun
  | _ => exact fun _ h => h

theorem Event.visitedUses_subset_allUses (e : Event) : ∀ n ∈ e.visitedUses, n ∈ e.allUses := by
  have hv := Value.visitedNames_subset_allNames
  intro n
  cases e with
  | call sp p s f a o =>
    simp only [Event.visitedUses, Event.allUses, List.mem_append, List.mem_flatMap]
    exact Or.imp (Or.imp (Or.imp (hv p n) (hv s n)) (hv f n)) fun ⟨x, hx, h⟩ => ⟨x, hx, hv x n h⟩
  | match_ sp a b | mismatch sp a b =>
    simp only [Event.visitedUses, Event.allUses, List.mem_append]
    exact Or.imp (hv a n) (hv b n)
  | ap sp a r => exact hv a n
  | apMap sp k v m => exact fun h => List.mem_append_left _ (hv k n h)
  | fold sp it i l =>
    cases it with
    | scalar v => exact hv v n
    | _ => exact id
  | _ => nofun

def varDefsOf (es : List Event) : List (String × Span) := es.flatMap fun e => e.varDefs.map fun n => (n, e.span)

def iterDefsOf (es : List Event) : List (String × Span) :=
  es.filterMap fun | .fold sp _ i _ => some (i, sp) | _ => none

def nextsOf (es : List Event) : List (String × Span) :=
  es.filterMap fun | .next sp i => some (i, sp) | _ => none

namespace SpanMap

theorem mem_of_get? {m : SpanMap} {k : String} {v : Span} (h : m.get? k = some v) : (k, v) ∈ m := by
  induction m with
  | nil => cases h
  | cons p rest ih =>
    rw [get?] at h
    split at h
    · rename_i hk
      cases h; cases beq_iff_eq.mp hk
      exact List.mem_cons_self
    · exact List.mem_cons_of_mem _ (ih h)

theorem mem_getVec {m : SpanMap} {k : String} {v : Span} : v ∈ m.getVec k ↔ (k, v) ∈ m := by
  induction m with
  | nil => simp [getVec]
  | cons p rest ih =>
    obtain ⟨k', v'⟩ := p
    rw [getVec]
    split
    · rename_i hk
      cases beq_iff_eq.mp hk
      simp [ih]
    · rename_i hk
      have : k ≠ k' := fun h => hk (by simp [h])
      simp [ih, this]

theorem mem_set {m : SpanMap} {k : String} {v : Span} {p : String × Span} (h : p ∈ m.set k v) :
    p ∈ m ∨ p = (k, v) := by
  induction m with
  | nil => exact Or.inr (List.mem_singleton.mp h)
  | cons q rest ih =>
    rw [set] at h
    split at h
    · rename_i hk
      cases beq_iff_eq.mp hk
      exact (List.mem_cons.mp h).symm.imp (List.mem_cons_of_mem _) id
    · exact (List.mem_cons.mp h).elim (fun h => .inl (h ▸ List.mem_cons_self)) fun h =>
        (ih h).imp (List.mem_cons_of_mem _) id

theorem get?_append_of_ne {a : SpanMap} {k : String} (ha : ∀ p ∈ a, p.1 ≠ k) (b : SpanMap) : (a ++ b).get? k = b.get? k := by
  induction a with
  | nil => rfl
  | cons p a ih =>
    rw [List.cons_append, get?, if_neg (by simpa using ha p List.mem_cons_self)]
    exact ih fun q hq => ha q (List.mem_cons_of_mem _ hq)

theorem get?_append_of_some {a : SpanMap} {k : String} {v : Span} (h : a.get? k = some v) (b : SpanMap) :
    (a ++ b).get? k = some v := by
  induction a with
  | nil => cases h
  | cons p a ih =>
    rw [get?] at h
    rw [List.cons_append, get?]
    split
    · rwa [if_pos ‹_›] at h
    · exact ih (by rwa [if_neg ‹_›] at h)

theorem get?_map {ks : List String} {k : String} (h : k ∈ ks) (v : Span) : get? (ks.map (·, v)) k = some v := by
  induction ks with
  | nil => cases h
  | cons k' ks ih =>
    rw [List.map_cons, get?]
    split
    · rfl
    · rename_i hk
      exact ih ((List.mem_cons.mp h).resolve_left fun h => hk (by simp [h]))

theorem mem_firstPerKeyAux_of_get? {m : SpanMap} {k : String} {v : Span} (h : m.get? k = some v) (seen : List String)
    (hs : k ∉ seen) : (k, v) ∈ firstPerKeyAux seen m := by
  induction m generalizing seen with
  | nil => cases h
  | cons p rest ih =>
    rw [get?] at h
    rw [firstPerKeyAux]
    split at h
    · rename_i hk
      cases h; cases beq_iff_eq.mp hk
      rw [if_neg (by simpa using hs)]
      exact List.mem_cons_self
    · rename_i hk
      split
      · exact ih h seen hs
      · exact List.mem_cons_of_mem _ (ih h _ (by simpa [hs] using fun h : k = p.1 => hk (by simp [h])))

theorem mem_firstPerKey_of_get? {m : SpanMap} {k : String} {v : Span} (h : m.get? k = some v) : (k, v) ∈ firstPerKey m :=
  mem_firstPerKeyAux_of_get? h [] List.not_mem_nil

end SpanMap

theorem mem_insertSpan {x y : Span} {l : List Span} : y ∈ insertSpan x l ↔ y = x ∨ y ∈ l := by
  induction l with
  | nil => simp [insertSpan]
  | cons z zs ih => simp only [insertSpan]; split <;> simp [ih, or_left_comm]

theorem mem_sortSpans {y : Span} {l : List Span} : y ∈ sortSpans l ↔ y ∈ l := by
  induction l with
  | nil => simp [sortSpans]
  | cons z zs ih =>
    have : sortSpans (z :: zs) = insertSpan z (sortSpans zs) := rfl
    rw [this, mem_insertSpan, ih]; simp

/-- the four containers of the validator the scoping checks read -/
structure Core where
  defs : SpanMap
  iters : SpanMap
  unres : SpanMap
  unresIt : SpanMap

namespace VariableValidator

def core (v : VariableValidator) : Core :=
  ⟨v.metVariableDefinitions, v.metIteratorDefinitions, v.unresolvedVariables, v.unresolvedIterables⟩

theorem containsVariable_core (v w : VariableValidator) (h1 : v.core.defs = w.core.defs)
    (h2 : v.core.iters = w.core.iters) (n : String) (sp : Span) :
    v.containsVariable n sp = w.containsVariable n sp := by
  simp only [core] at h1 h2
  simp [containsVariable, h1, h2]

/-- `HashMap` update of `met_variable_name_definition` -/
def defUpdate (d : SpanMap) (n : String) (sp : Span) : SpanMap :=
  match d.get? n with
  | some occupied => if occupied.gt sp then d.set n sp else d
  | none => d ++ [(n, sp)]

theorem mem_defUpdate {d : SpanMap} {n : String} {sp : Span} {p : String × Span}
    (h : p ∈ defUpdate d n sp) : p ∈ d ∨ p = (n, sp) := by
  unfold defUpdate at h
  split at h
  · split at h
    · exact SpanMap.mem_set h
    · exact Or.inl h
  · simpa using h

theorem core_metVariableName (v : VariableValidator) (n : String) (sp : Span) :
    (v.metVariableName n sp).core =
      { v.core with unres := v.core.unres ++ (if v.containsVariable n sp then [] else [(n, sp)]) } := by
  unfold metVariableName
  by_cases h : v.containsVariable n sp <;> simp [h, core, SpanMap.push]

theorem core_metVariableNameDefinition (v : VariableValidator) (n : String) (sp : Span) :
    (v.metVariableNameDefinition n sp).core = { v.core with defs := defUpdate v.core.defs n sp } := by
  unfold metVariableNameDefinition defUpdate
  simp only [core]
  cases hg : v.metVariableDefinitions.get? n with
  | none => simp
  | some occ => by_cases h : occ.gt sp <;> simp [h]

theorem core_metIteratorDefinition (v : VariableValidator) (i : String) (sp : Span) :
    (v.metIteratorDefinition i sp).core = { v.core with iters := v.core.iters ++ [(i, sp)] } := rfl

@[simp] theorem core_machine (v : VariableValidator) (k : CheckInstructionKind) (sp : Span) :
    (v.machine k sp).core = v.core := rfl

def pushUses (v : VariableValidator) (names : List String) (sp : Span) : VariableValidator :=
  names.foldl (fun v n => v.metVariableName n sp) v

theorem pushUses_append (v : VariableValidator) (a b : List String) (sp : Span) :
    v.pushUses (a ++ b) sp = (v.pushUses a sp).pushUses b sp := by simp [pushUses, List.foldl_append]

theorem core_pushUses (v : VariableValidator) (names : List String) (sp : Span) :
    (v.pushUses names sp).core =
      { v.core with unres := v.core.unres ++ (names.filter fun n => !v.containsVariable n sp).map fun n => (n, sp) } := by
  induction names generalizing v with
  | nil => simp [pushUses]
  | cons n ns ih =>
    have hstep : v.pushUses (n :: ns) sp = (v.metVariableName n sp).pushUses ns sp := rfl
    rw [hstep, ih, core_metVariableName]
    have hc : ∀ m, (v.metVariableName n sp).containsVariable m sp = v.containsVariable m sp := fun m =>
      containsVariable_core _ _ (by rw [core_metVariableName]) (by rw [core_metVariableName]) m sp
    simp only [hc, List.filter_cons]
    by_cases h : v.containsVariable n sp <;> simp [h]

theorem metVariableName_eq (v : VariableValidator) (n : String) (sp : Span) : v.metVariableName n sp = v.pushUses [n] sp := rfl

theorem metLambda_eq (v : VariableValidator) (l : Lambda) (sp : Span) : v.metLambda l sp = v.pushUses l.scalarNames sp := rfl

theorem metValue_eq (v : VariableValidator) (val : Value) (sp : Span) :
    v.metValue val sp = v.pushUses val.visitedNames sp := by
  cases val <;> simp [metValue, Value.visitedNames, pushUses, metLambda]

theorem metArgs_eq (v : VariableValidator) (args : List Value) (sp : Span) :
    v.metArgs args sp = v.pushUses (args.flatMap Value.visitedNames) sp := by
  induction args generalizing v with
  | nil => rfl
  | cons a as ih =>
    have : v.metArgs (a :: as) sp = (v.metValue a sp).metArgs as sp := rfl
    rw [this, ih, metValue_eq, List.flatMap_cons, pushUses_append]

def defsAfter (d : SpanMap) (e : Event) : SpanMap := e.varDefs.foldl (fun d n => defUpdate d n e.span) d

theorem core_metFailLiteral (v : VariableValidator) (a : FailArg) (sp : Span) : (v.metFailLiteral a sp).core = v.core := by
  unfold metFailLiteral
  split
  · split <;> rfl
  · rfl

theorem core_step (v : VariableValidator) (e : Event) :
    (v.step e).core =
      { defs := defsAfter v.core.defs e,
        iters := v.core.iters ++ iterDefsOf [e],
        unres := v.core.unres ++ (e.visitedUses.filter fun n => !v.containsVariable n e.span).map fun n => (n, e.span),
        unresIt := v.core.unresIt ++ nextsOf [e] } := by
  cases e
  all_goals first | cases ‹CallOutput› | cases ‹FoldIterable› | skip
  -- every handler is a chain of `pushUses`, definitions and `machine`; what is left is `rfl`
  all_goals
    simp only [step, metCall, metMatch, metAp, metApMap, metCanon, metFold, metNew, metNext, metValue_eq, metArgs_eq,
      metVariableName_eq, ← pushUses_append, metSimpleInstr, metMergingInstr, metXoringInstr, metReplacingInstr,
      metPivotalnextInstr, core_machine, core_metVariableNameDefinition, core_metIteratorDefinition, core_pushUses,
      core_metFailLiteral, iterDefsOf, nextsOf, Event.visitedUses, List.filterMap_cons, List.filterMap_nil,
      List.filter_nil, List.map_nil, List.append_nil]
  all_goals rfl

def runFrom (v : VariableValidator) (es : List Event) : VariableValidator := es.foldl step v

theorem run_eq (es : List Event) : run es = runFrom {} es := rfl

theorem runFrom_cons (v : VariableValidator) (e : Event) (es : List Event) : runFrom v (e :: es) = runFrom (v.step e) es := rfl

theorem runFrom_append (v : VariableValidator) (a b : List Event) : runFrom v (a ++ b) = runFrom (runFrom v a) b :=
  List.foldl_append

theorem iterDefsOf_append (a b : List Event) : iterDefsOf (a ++ b) = iterDefsOf a ++ iterDefsOf b := List.filterMap_append
theorem nextsOf_append (a b : List Event) : nextsOf (a ++ b) = nextsOf a ++ nextsOf b := List.filterMap_append
theorem varDefsOf_append (a b : List Event) : varDefsOf (a ++ b) = varDefsOf a ++ varDefsOf b := List.flatMap_append

theorem iters_runFrom (v : VariableValidator) (es : List Event) :
    (runFrom v es).core.iters = v.core.iters ++ iterDefsOf es := by
  induction es generalizing v with
  | nil => exact (List.append_nil _).symm
  | cons e es ih => rw [runFrom_cons, ih, core_step, List.append_assoc, ← iterDefsOf_append]; rfl

theorem unresIt_runFrom (v : VariableValidator) (es : List Event) :
    (runFrom v es).core.unresIt = v.core.unresIt ++ nextsOf es := by
  induction es generalizing v with
  | nil => exact (List.append_nil _).symm
  | cons e es ih => rw [runFrom_cons, ih, core_step, List.append_assoc, ← nextsOf_append]; rfl

theorem mem_defsAfter {d : SpanMap} {e : Event} {p : String × Span} (h : p ∈ defsAfter d e) :
    p ∈ d ∨ p ∈ varDefsOf [e] := by
  have gen : ∀ (names : List String) (d : SpanMap), p ∈ names.foldl (fun d n => defUpdate d n e.span) d →
      p ∈ d ∨ p ∈ names.map (·, e.span) := by
    intro names
    induction names with
    | nil => exact fun d h => .inl h
    | cons n ns ih =>
      intro d h
      rcases ih _ h with h | h
      · rcases mem_defUpdate h with h | rfl
        · exact .inl h
        · exact .inr List.mem_cons_self
      · exact .inr (List.mem_cons_of_mem _ h)
  simpa [varDefsOf] using gen _ _ h

theorem defs_runFrom (v : VariableValidator) (es : List Event) (p : String × Span)
    (h : p ∈ (runFrom v es).core.defs) : p ∈ v.core.defs ∨ p ∈ varDefsOf es := by
  induction es generalizing v with
  | nil => exact Or.inl h
  | cons e es ih =>
    rw [show e :: es = [e] ++ es from rfl, varDefsOf_append, List.mem_append]
    rcases ih _ h with h | h
    · rw [core_step] at h
      exact (mem_defsAfter h).imp id .inl
    · exact .inr (.inr h)

theorem unres_runFrom (v : VariableValidator) (es : List Event) :
    ∃ suf, (runFrom v es).core.unres = v.core.unres ++ suf ∧
      ∀ p ∈ suf, ∃ e ∈ es, p.1 ∈ e.visitedUses ∧ p.2 = e.span := by
  induction es generalizing v with
  | nil => exact ⟨[], (List.append_nil _).symm, fun _ => nofun⟩
  | cons e es ih =>
    obtain ⟨suf, hs, hp⟩ := ih (v.step e)
    rw [core_step] at hs
    refine ⟨_ ++ suf, by rw [runFrom_cons, hs]; exact List.append_assoc .., fun p hp' => ?_⟩
    rcases List.mem_append.mp hp' with h | h
    · obtain ⟨n, hn, rfl⟩ := List.mem_map.mp h
      exact ⟨e, List.mem_cons_self, (List.mem_filter.mp hn).1, rfl⟩
    · obtain ⟨e', he', h12⟩ := hp p h
      exact ⟨e', List.mem_cons_of_mem _ he', h12⟩

theorem containsVariable_sound {v : VariableValidator} {n : String} {sp : Span} (h : v.containsVariable n sp = true) :
    (∃ d, (n, d) ∈ v.core.defs ∧ d.lt sp = true) ∨ (∃ f, (n, f) ∈ v.core.iters ∧ f.lt sp = true) := by
  unfold containsVariable at h
  rcases Bool.or_eq_true_iff.mp h with h | h
  · left
    cases hg : v.metVariableDefinitions.get? n with
    | none => simp [hg] at h
    | some d => simp only [hg] at h; exact ⟨d, SpanMap.mem_of_get? hg, h⟩
  · right
    obtain ⟨f, hf, hlt⟩ := List.any_eq_true.mp h
    exact ⟨f, SpanMap.mem_getVec.mp hf, hlt⟩

theorem findClosestFoldSpan_sound {v : VariableValidator} {k : String} {sp : Span}
    (h : (v.findClosestFoldSpan k sp).isSome = true) : ∃ f, (k, f) ∈ v.core.iters ∧ f.containsSpan sp = true := by
  unfold findClosestFoldSpan at h
  obtain ⟨f, hf⟩ := Option.isSome_iff_exists.mp h
  have hmem := List.mem_of_getLast? hf
  obtain ⟨h1, h2⟩ := List.mem_filter.mp hmem
  exact ⟨f, SpanMap.mem_getVec.mp (mem_sortSpans.mp h1), h2⟩

end VariableValidator

end Aqua.Air
