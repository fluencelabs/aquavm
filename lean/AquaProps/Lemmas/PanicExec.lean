import AquaProps.Lemmas.Panic
import AquaProps.Lemmas.PanicTrace
/-!
C01: which panic sites each function of the executor model can reach.  One lemma per model function,
proved by walking its definition (see `Panic.lean`); `exec` itself is handled in `PanicExecTop.lean` arm by arm.
A proof that is a single `simp` says that the function has no site of its own; the sites are the leaves closed
by `site`, and the places where a site of the model is shown not to be reached are spelled out.
-/

namespace AquaProps.Panic
open Aqua Aqua.Exec Aqua.Air Aqua.Trace Aqua.Json Aqua.Data

/-- sites of the executor model for which a concrete input reaches the panic in the model (the `example`s in
`AquaProps/C01.lean`) and in the real interpreter (the harness catalog replays them) -/
def execWitnessedSites : List String :=
  ["raw_value.rs:get_value:expect(TODO handle error)",
   "prev_result_handler.rs:handle_prev_state:argument_hash.unwrap()(Failed)",
   "prev_result_handler.rs:handle_prev_state:argument_hash.expect(Result for joinable error)",
   "prev_result_handler.rs:handle_prev_state:argument_hash.unwrap()(Executed)",
   "context.rs:next_call_request_id:last_call_request_id+=1",
   "values_matrix.rs:add_value_to_generation:generation_idx.checked_add(1).unwrap()"]

/-- sites that are syntactically reachable in the model but guarded by internal invariants of the executor
(cursor < length, fold depth > 0, a state was read before its position is mapped, scopes are closed after they
are opened, the fold queue is non-empty when it is read, …) that are not proved here; no input reaching them is known -/
def execResidualSites : List String :=
  ["values_sparse_matrix.rs:meet_next_after:current_depth-=1",
   "values_sparse_matrix.rs:meet_fold_end:current_depth-=1",
   "iterable/resolved_call.rs:peek:array[cursor]",
   "iterable/resolved_call.rs:peek:unimplemented(non-array)",
   "iterable/lambda_result.rs:peek:jvalues[cursor]",
   "iterable/vec_resolved_call.rs:peek:call_results[cursor]",
   "peek().expect(PEEK_ALLOWED_ON_NON_EMPTY)",
   "fold_lore_resolver.rs:cum_after_len+=after_len",
   "lore_ctor.rs:PositionsTracker::len(before)",
   "lore_ctor.rs:PositionsTracker::len(after)",
   "lore_ctor_queue.rs:current:back_traversal_pos-1",
   "lore_ctor_queue.rs:current:index",
   "lore_ctor_queue.rs:traverse_back",
   "streams_variables.rs:meet_scope_end:get_mut(&name).unwrap()",
   "streams_variables.rs:meet_scope_end:pop().unwrap()",
   "fold_stream.rs:get_mut_stream:streams.get_mut(..).unwrap()"]

def execPanicSites : List String := execWitnessedSites ++ execResidualSites

def rawSite : String := "raw_value.rs:get_value:expect(TODO handle error)"

def execSitesBase : List String := execPanicSites.erase rawSite

/-- the lemmas below are generic in the list `L` of allowed sites: `L` holds every site of `execSitesBase` … -/
class Sites (L : List String) : Prop where
  mem : ∀ s ∈ execSitesBase, s ∈ L

/-- … and either holds the raw-value site too, or the environment's JSON parser accepts every text (then
`RawValue::get_value` cannot fail) -/
class RawOk (env : Env) (L : List String) : Prop where
  h : (∀ t, (env.parseJson t).isSome = true) ∨ rawSite ∈ L

/-- the raw-value site is the first of the list -/
theorem execSitesBase_eq : execSitesBase = execWitnessedSites.tail ++ execResidualSites := List.erase_cons_head ..

instance : Sites execPanicSites := ⟨fun _ h => List.mem_of_mem_erase h⟩
instance (env : Env) : RawOk env execPanicSites := ⟨.inr List.mem_cons_self⟩
instance : Sites execSitesBase := ⟨fun _ h => h⟩

/-- membership of a literal site in the list of allowed sites: it is found in `execSitesBase` -/
macro "site" : tactic => `(tactic| exact Sites.mem _ (by
  simp only [execSitesBase_eq, execWitnessedSites, execResidualSites, List.tail_cons, List.cons_append, List.nil_append,
    List.mem_cons, true_or, or_true]))

variable {L : List String}

attribute [local simp] catchable uncatchable unmodelled lambdaErr

theorem sm_getValue {α} (m : SparseMatrix α) (n : String) : ResIn L (m.getValue n) := by
  unfold SparseMatrix.getValue
  split
  · simp
  · split <;> simp

theorem sm_setValue {α} (m : SparseMatrix α) (n : String) (v : α) : ResIn L (m.setValue n v) := by
  unfold SparseMatrix.setValue
  split
  · simp
  · simp only [resIn_ite]
    refine ⟨by simp, fun _ => ?_⟩
    split <;> simp

theorem sc_getIterable (s : Scalars) (n : String) : ResIn L (s.getIterable n) := by
  unfold Scalars.getIterable
  split <;> simp

theorem sc_setIterableValue (s : Scalars) (n : String) (f : FoldState) : ResIn L (s.setIterableValue n f) := by
  simp [Scalars.setIterableValue]

theorem sc_getValue (s : Scalars) (n : String) : ResIn L (s.getValue n) := by
  unfold Scalars.getValue
  dsimp only
  split
  · exact (sm_getValue _ _).of_eq ‹_›
  all_goals simp   -- among them the clash: `IterableShadowing` since /repo 66d8bd2

theorem sc_setScalarValue (s : Scalars) (n : String) (v : ValueAggregate) : ResIn L (s.setScalarValue n v) := by
  simp [Scalars.setScalarValue, sm_setValue]

theorem sc_getCanonStream (s : Scalars) (n : String) : ResIn L (s.getCanonStream n) := by
  unfold Scalars.getCanonStream
  split
  · simp
  · simp
  · simp
  · exact (sm_getValue _ _).of_eq ‹_›

theorem sc_setCanonValue (s : Scalars) (n : String) (v : CanonStreamWP) : ResIn L (s.setCanonValue n v) := by
  simp [Scalars.setCanonValue, sm_setValue]

theorem sc_getCanonMap (s : Scalars) (n : String) : ResIn L (s.getCanonMap n) := by
  unfold Scalars.getCanonMap
  split
  · simp
  · simp
  · simp
  · exact (sm_getValue _ _).of_eq ‹_›

theorem sc_setCanonMapValue (s : Scalars) (n : String) (v : CanonStreamMapWP) : ResIn L (s.setCanonMapValue n v) := by
  simp [Scalars.setCanonMapValue, sm_setValue]

theorem lam_tryNumberToU32 (n : JVal) : ResIn L (tryNumberToU32 n) := by
  unfold tryNumberToU32
  split <;> simp

theorem lam_tryJvalueWithIdx (v : JVal) (i : Nat) : ResIn L (tryJvalueWithIdx v i) := by
  unfold tryJvalueWithIdx
  split
  · split <;> simp
  · simp

theorem lam_tryJvalueWithFieldName (v : JVal) (f : String) : ResIn L (tryJvalueWithFieldName v f) := by
  unfold tryJvalueWithFieldName
  split
  · split <;> simp
  · simp

theorem lam_selectByJvalue (v a : JVal) : ResIn L (selectByJvalue v a) := by
  unfold selectByJvalue
  split <;> simp [lam_tryJvalueWithFieldName, lam_tryNumberToU32, lam_tryJvalueWithIdx]

theorem lam_tryJvalueAsIdx (v : JVal) : ResIn L (Lens.tryJvalueAsIdx v) := by
  unfold Lens.tryJvalueAsIdx
  split <;> simp [lam_tryNumberToU32]

theorem lens_tryScalarRefAsStreamMapKey_in (r : ScalarRef) : ResIn L (Lens.tryScalarRefAsStreamMapKey r) := by
  unfold Lens.tryScalarRefAsStreamMapKey
  split
  · split <;> simp
  · simp

theorem getTetrapletByCid_in (s : CidState) (cid : Cid) : ResIn L (getTetrapletByCid s cid) := by
  unfold getTetrapletByCid
  split <;> simp

theorem verifyCanon_in (a b : Tetraplet) : ResIn L (verifyCanon a b) := by simp [verifyCanon]

theorem verifyCall_in (a : String) (b : Tetraplet) (c : String) (d : Tetraplet) : ResIn L (verifyCall a b c d) := by
  simp [verifyCall]

theorem updateGenerations_inner_in (g : Nat) : ∀ (vs : List ValueAggregate) (th : TraceHandler), ResIn L (Stream.updateGenerations.go.inner g vs th)
  | [], th => by simp [Stream.updateGenerations.go.inner]
  | v :: more, th => by
    unfold Stream.updateGenerations.go.inner
    split
    · exact updateGenerations_inner_in g more _
    · simp
    · exact (updateGeneration_in _ _ _).of_eq ‹_›

theorem updateGenerations_go_in : ∀ (sl : List (List ValueAggregate)) (g : Nat) (th : TraceHandler), ResIn L (Stream.updateGenerations.go sl g th)
  | [], g, th => by simp [Stream.updateGenerations.go]
  | vs :: rest, g, th => by
    unfold Stream.updateGenerations.go
    split
    · exact updateGenerations_go_in rest _ _
    · simp
    · exact (updateGenerations_inner_in _ _ _).of_eq ‹_›

theorem stream_compactify (s : Stream) (th : TraceHandler) : ResIn L (s.compactify th) := by
  simp [Stream.compactify, Stream.updateGenerations, updateGenerations_go_in]

theorem compactifyStreams_descs_in : ∀ (ds : List StreamDesc) (th : TraceHandler), ResIn L (Ctx.compactifyStreams.descs ds th)
  | [], th => by simp [Ctx.compactifyStreams.descs]
  | d :: rest, th => by
    unfold Ctx.compactifyStreams.descs
    split
    · split
      · simp
      · simp
      · exact (compactifyStreams_descs_in rest _).of_eq ‹_›
    · simp
    · exact (stream_compactify _ _).of_eq ‹_›

theorem compactifyStreams_all_in : ∀ (l : List (String × List StreamDesc)) (th : TraceHandler), ResIn L (Ctx.compactifyStreams.all l th)
  | [], th => by simp [Ctx.compactifyStreams.all]
  | (n, ds) :: rest, th => by
    unfold Ctx.compactifyStreams.all
    split
    · split
      · simp
      · simp
      · exact (compactifyStreams_all_in rest _).of_eq ‹_›
    · simp
    · exact (compactifyStreams_descs_in _ _).of_eq ‹_›

theorem compactifyStreams_in (c : Ctx) : ResIn L c.compactifyStreams := by
  unfold Ctx.compactifyStreams
  split
  · simp
  · simp
  · exact (compactifyStreams_all_in _ _).of_eq ‹_›

theorem checkOutputName_in (c : Ctx) (out : CallOutput) : ResIn L (checkOutputName c out) := by
  unfold checkOutputName
  split
  · split
    · simp
    · simp
    · simp
    · exact (sc_getValue _ _).of_eq ‹_›
  · simp

theorem lens_canonMapKeyOfPrefix_in (sc : Scalars) (a : Accessor) : ResIn L (Lens.canonMapKeyOfPrefix sc (.ofAccessor a)) := by
  cases a <;> simp only [Lens.ValueAccessor.ofAccessor, Lens.canonMapKeyOfPrefix]
  · simp
  · simp
  · split
    · simp [liftLambda, lens_tryScalarRefAsStreamMapKey_in]
    · simp
    · exact (sc_getValue _ _).of_eq ‹_›

theorem lensOfLambda_in {α} (l : Lambda) (k : Lens.LambdaAST → ER α)
    (hk : ∀ lam, Lens.LambdaAST.ofLambda l = some lam → ResIn L (k lam)) : ResIn L (lensOfLambda l k) := by
  unfold lensOfLambda
  split
  · exact hk _ ‹_›
  · simp

theorem pin_maybeSetPrevState (s : StateDescriptor) : PIn' L s.maybeSetPrevState := by
  unfold StateDescriptor.maybeSetPrevState
  split <;> simp

theorem pin_sentByOther (met : MetCallResult) (t : Tetraplet) : PIn' L (sentByOther met t) := by
  unfold sentByOther
  apply pin_bind' (pin_readCtx _); intro me
  split
  · simp
  · exact pin_bind' pin_makeSubgraphIncomplete fun _ => pin_pure' _

theorem pin_unwrapHash {site : String} (h : site ∈ L) (o : Option String) : PIn' L (unwrapHash site o) := by
  unfold unwrapHash
  split
  · simp
  · exact pin_panicM h

theorem resIn_rawSite (env : Env) [RawOk env L] {α} (raw : String) (h : env.parseJson raw = none) :
    ResIn L (.panic "raw_value.rs:get_value:expect(TODO handle error)" : ER α) := by
  rcases RawOk.h (env := env) (L := L) with hall | hmem
  · have := hall raw; rw [h] at this; cases this
  · exact resIn_panic hmem

theorem resolveServiceInfo_in (env : Env) [RawOk env L] (s : CidState) (cid : Cid) : ResIn L (resolveServiceInfo env s cid) := by
  unfold resolveServiceInfo
  split
  · simp
  · split
    · simp
    · split
      · exact resIn_rawSite env _ ‹_›
      · split <;> simp

theorem getValueByCid_in (env : Env) [RawOk env L] (s : CidState) (cid : Cid) : ResIn L (getValueByCid env s cid) := by
  unfold getValueByCid
  split
  · simp
  · split
    · exact resIn_rawSite env _ ‹_›
    · simp

theorem getCanonValueByCid_in (env : Env) [RawOk env L] (s : CidState) (cid : Cid) : ResIn L (getCanonValueByCid env s cid) := by
  unfold getCanonValueByCid
  split <;> simp [getValueByCid_in, getTetrapletByCid_in]

variable [Sites L]

instance : TraceSites L :=
  ⟨by simp only [List.forall_mem_cons, sCUM, sLB, sLA, sCUR0, sCURI, sTB]
      refine ⟨?_, ?_, ?_, ?_, ?_, ?_, nofun⟩ <;> site⟩

set_option linter.unusedSectionVars false in
theorem resIn_catchable {α} (e : CatchableErr) : ResIn L (catchable e : ER α) := resIn_error _
set_option linter.unusedSectionVars false in
theorem resIn_uncatchable {α} (e : UncatchableErr) : ResIn L (uncatchable e : ER α) := resIn_error _

theorem sm_meetNextAfter {α} (m : SparseMatrix α) : ResIn L m.meetNextAfter := by
  unfold SparseMatrix.meetNextAfter
  split
  · exact resIn_panic (by site)
  · simp

theorem sm_meetFoldEnd {α} (m : SparseMatrix α) : ResIn L m.meetFoldEnd := by
  unfold SparseMatrix.meetFoldEnd
  split
  · exact resIn_panic (by site)
  · simp

theorem it_peek (it : IterableValue) : ResIn L it.peek := by
  unfold IterableValue.peek
  split
  · split
    · simp
    · split
      · split
        · simp
        · exact resIn_panic (by site)
      · exact resIn_panic (by site)
  · split
    · simp
    · split
      · simp
      · exact resIn_panic (by site)
  · split
    · simp
    · split
      · simp
      · exact resIn_panic (by site)

theorem it_peekExpect (it : IterableValue) : ResIn L it.peekExpect := by
  simp only [IterableValue.peekExpect, resIn_bind_iff, it_peek, true_and]
  intros
  split
  · simp
  · exact resIn_panic (by site)

theorem sc_meetNextAfter (s : Scalars) : ResIn L s.meetNextAfter := by
  simp [Scalars.meetNextAfter, sm_meetNextAfter]

theorem sc_meetFoldEnd (s : Scalars) : ResIn L s.meetFoldEnd := by
  simp [Scalars.meetFoldEnd, sm_meetFoldEnd]

theorem scalarRef_parts (r : ScalarRef) : ResIn L r.parts := by
  cases r <;> simp [ScalarRef.parts, it_peekExpect]

theorem scalarRefValue_in (r : ScalarRef) : ResIn L (scalarRefValue r) := by
  cases r <;> simp [scalarRefValue, it_peekExpect]

theorem selectByPathFromScalar_in (sc : Scalars) : ∀ (as : List Accessor) (v : JVal), ResIn L (selectByPathFromScalar sc v as)
  | [], v => by simp [selectByPathFromScalar]
  | a :: rest, v => by
    cases a <;> simp [selectByPathFromScalar, liftLambda, lam_tryJvalueWithIdx, lam_tryJvalueWithFieldName, sc_getValue,
      scalarRefValue_in, lam_selectByJvalue, selectByPathFromScalar_in sc rest]

theorem selectByLambdaFromScalar_in (sc : Scalars) (v : JVal) (l : Lambda) : ResIn L (selectByLambdaFromScalar sc v l) := by
  unfold selectByLambdaFromScalar
  split
  · exact selectByPathFromScalar_in _ _ _
  · split <;> simp

/-! The full lens applier (`Aqua/Exec/Lens.lean`) on accessors that come from the executor's AST:
`ValueAccessor.ofAccessor` never yields the `Error` accessor, so `unreachable!()` is not reached. -/

theorem lens_selectByScalar_in (v : JVal) (r : ScalarRef) : ResIn L (Lens.selectByScalar v r) := by
  unfold Lens.selectByScalar
  split
  · simp [liftLambda, lam_selectByJvalue]
  · split
    · simp [liftLambda, lam_selectByJvalue]
    · simp
    · exact (it_peekExpect _).of_eq ‹_›

theorem lens_selectByPathFromScalar_in (sc : Scalars) : ∀ (as : List Accessor) (v : JVal),
    ResIn L (Lens.selectByPathFromScalar sc v (as.map Lens.ValueAccessor.ofAccessor))
  | [], v => by simp [Lens.selectByPathFromScalar]
  | a :: rest, v => by
    have ih := lens_selectByPathFromScalar_in sc rest
    cases a <;> simp only [List.map_cons, Lens.ValueAccessor.ofAccessor, Lens.selectByPathFromScalar]
    · split
      · exact ih _
      · simp
      · exact (resIn_mapErr_iff _ |>.2 (lam_tryJvalueWithIdx _ _)).of_eq ‹_›
    · split
      · exact ih _
      · simp
      · exact (resIn_mapErr_iff _ |>.2 (lam_tryJvalueWithFieldName _ _)).of_eq ‹_›
    · split
      · split
        · exact ih _
        · simp
        · exact (lens_selectByScalar_in _ _).of_eq ‹_›
      · simp
      · exact (sc_getValue _ _).of_eq ‹_›

theorem lens_tryScalarRefAsIdx_in (r : ScalarRef) : ResIn L (Lens.tryScalarRefAsIdx r) := by
  unfold Lens.tryScalarRefAsIdx
  split
  · simp [liftLambda, lam_tryJvalueAsIdx]
  · split
    · simp [liftLambda, lam_tryJvalueAsIdx]
    · simp
    · exact (it_peekExpect _).of_eq ‹_›

theorem lens_splitToIdx_in (sc : Scalars) (a : Accessor) : ResIn L (Lens.splitToIdx sc (.ofAccessor a)) := by
  cases a <;> simp only [Lens.ValueAccessor.ofAccessor, Lens.splitToIdx]
  · simp
  · simp
  · split
    · exact lens_tryScalarRefAsIdx_in _
    · simp
    · exact (sc_getValue _ _).of_eq ‹_›

theorem lens_selectByPathFromStream_in (sc : Scalars) (stream : List JVal) (a : Accessor) (body : List Accessor) :
    ResIn L (Lens.selectByPathFromStream sc stream (.ofAccessor a) (body.map .ofAccessor)) := by
  unfold Lens.selectByPathFromStream
  split
  · split
    · simp
    · split
      · simp
      · simp
      · exact (lens_selectByPathFromScalar_in _ _ _).of_eq ‹_›
  · simp
  · exact (lens_splitToIdx_in _ _).of_eq ‹_›

theorem lens_selectByPathFromCanonMapStream_in (sc : Scalars) (stream : List JVal) (a : Accessor) (body : List Accessor) :
    ResIn L (Lens.selectByPathFromCanonMapStream sc stream (.ofAccessor a) (body.map .ofAccessor)) := by
  unfold Lens.selectByPathFromCanonMapStream
  split
  · split <;> simp [lens_selectByPathFromScalar_in]
  · simp
  · exact (lens_splitToIdx_in _ _).of_eq ‹_›

theorem lens_selectByPathFromCanonMap_in (sc : Scalars) (m : Lens.CanonStreamMap) (a : Accessor) (body : List Accessor) :
    ResIn L (Lens.selectByPathFromCanonMap sc m (.ofAccessor a) (body.map .ofAccessor)) := by
  unfold Lens.selectByPathFromCanonMap
  split
  next key _ => cases body <;> cases m.index key <;> simp [lens_selectByPathFromCanonMapStream_in]
  · simp
  · exact (lens_canonMapKeyOfPrefix_in _ _).of_eq ‹_›

theorem ofLambda_cases (l : Lambda) (lam : Lens.LambdaAST) (h : Lens.LambdaAST.ofLambda l = some lam) :
    lam = .functor .length ∨ ∃ a as, l = .path (a :: as) ∧ lam = .valuePath (.ofAccessor a) (as.map .ofAccessor) := by
  cases l with
  | functorLength => simp [Lens.LambdaAST.ofLambda] at h; exact .inl h.symm
  | path as =>
    cases as with
    | nil => simp [Lens.LambdaAST.ofLambda] at h
    | cons a as => simp [Lens.LambdaAST.ofLambda] at h; exact .inr ⟨a, as, rfl, h.symm⟩

theorem lens_selectByLambdaFromStream_in (sc : Scalars) (stream : List JVal) (l : Lambda) (lam : Lens.LambdaAST)
    (h : Lens.LambdaAST.ofLambda l = some lam) : ResIn L (Lens.selectByLambdaFromStream sc stream lam) := by
  rcases ofLambda_cases l lam h with rfl | ⟨a, as, _, rfl⟩ <;>
    simp [Lens.selectByLambdaFromStream, lens_selectByPathFromStream_in]

theorem lens_selectByLambdaFromCanonMap_in (sc : Scalars) (m : Lens.CanonStreamMap) (l : Lambda) (lam : Lens.LambdaAST)
    (h : Lens.LambdaAST.ofLambda l = some lam) : ResIn L (Lens.selectByLambdaFromCanonMap sc m lam) := by
  rcases ofLambda_cases l lam h with rfl | ⟨a, as, _, rfl⟩ <;>
    simp [Lens.selectByLambdaFromCanonMap, lens_selectByPathFromCanonMap_in]

/-- `TETRAPLET_IDX_CORRECT`: the index a stream lens reports is inside the stream -/
theorem selectByLambdaFromStream_idx (sc : Scalars) (stream : List JVal) (lam : Lens.LambdaAST) (r : Lens.LambdaResult) (idx : Nat)
    (h : Lens.selectByLambdaFromStream sc stream lam = .ok r) (hi : r.tetrapletIdx = some idx) : idx < stream.length := by
  unfold Lens.selectByLambdaFromStream at h
  split at h
  · unfold Lens.selectByPathFromStream at h
    split at h
    · split at h
      · cases h
      · rename_i hv
        split at h <;> cases h
        cases hi
        exact (List.getElem?_eq_some_iff.mp hv).1
    · cases h
    · cases h
  · cases h
    cases hi

theorem canonStreamApplyLambda_in (c : Ctx) (cs : CanonStream) (l : Lambda) (p : Provenance) : ResIn L (canonStreamApplyLambda c cs l p) := by
  unfold canonStreamApplyLambda
  apply lensOfLambda_in; intro lam hlam
  split
  · rename_i hr
    split
    · rename_i hidx
      split
      · simp
      · rename_i hnone   -- `nth(idx).expect(TETRAPLET_IDX_CORRECT)`
        have := selectByLambdaFromStream_idx _ _ _ _ _ hr hidx
        simp at this hnone
        omega
    · simp
  · simp
  · exact (lens_selectByLambdaFromStream_in _ _ l lam hlam).of_eq ‹_›

theorem canonMapStreamTetraplet_in (sc : Scalars) (stream : List ValueAggregate) (a : Accessor) (body : List Accessor) :
    ResIn L (canonMapStreamTetraplet sc stream (.ofAccessor a) body) := by
  unfold canonMapStreamTetraplet
  split
  · split <;> simp
  · simp
  · exact (lens_splitToIdx_in _ _).of_eq ‹_›

theorem canonMapLensTetraplet_in (c : Ctx) (m : CanonStreamMapAgg) (l : Lambda) : ResIn L (canonMapLensTetraplet c m l) := by
  unfold canonMapLensTetraplet
  split
  · simp
  · simp
  · split
    · split <;> simp [canonMapStreamTetraplet_in]
    · simp
    · exact (lens_canonMapKeyOfPrefix_in _ _).of_eq ‹_›

theorem canonMapApplyLambda_in (c : Ctx) (m : CanonStreamMapAgg) (l : Lambda) (p : Provenance) : ResIn L (canonMapApplyLambda c m l p) := by
  unfold canonMapApplyLambda
  apply lensOfLambda_in; intro lam hlam
  split
  · simp [canonMapLensTetraplet_in]
  · simp
  · exact (lens_selectByLambdaFromCanonMap_in _ _ l lam hlam).of_eq ‹_›

theorem resolveErrors_in (c : Ctx) (ie : InstructionError) (lens : Option Lambda) : ResIn L (resolveErrors c ie lens) := by
  cases lens <;> simp [resolveErrors, selectByLambdaFromScalar_in]

theorem resolveValue_in (c : Ctx) (v : Value) : ResIn L (resolveValue c v) := by
  cases v <;> simp [resolveValue, resolveErrors_in, sc_getValue, scalarRef_parts, selectByLambdaFromScalar_in,
    sc_getCanonStream, canonStreamApplyLambda_in, sc_getCanonMap, canonMapApplyLambda_in]

/-! the `tetraplets.remove(0)` of `apply_to_arguments.rs` cannot hit an empty list -/

theorem resolveErrors_tetraplets (c : Ctx) (ie : InstructionError) (lens : Option Lambda) (v : JVal) (p : Provenance) :
    resolveErrors c ie lens ≠ .ok (v, [], p) := by
  intro h
  cases lens <;> simp [resolveErrors, Res.bind_eq_ok, Res.pure_eq_ok] at h <;> split at h <;> simp at h

theorem resolveValue_tetraplets (c : Ctx) (arg : Value) (v : JVal) (p : Provenance) (h : resolveValue c arg = .ok (v, [], p)) :
    (∃ n, arg = .canon n) ∨ ∃ n, arg = .canonMap n := by
  cases arg
  case canon => exact .inl ⟨_, rfl⟩
  case canonMap => exact .inr ⟨_, rfl⟩
  all_goals simp [resolveValue, resolveConst, resolveErrors_tetraplets, Res.bind_eq_ok, Res.pure_eq_ok] at h

theorem resolveToString_in (c : Ctx) (v : Value) : ResIn L (resolveToString c v) := by
  cases v <;> simp only [resolveToString, resIn_ok, unmodelled, resIn_error, resIn_bind_iff, resolveValue_in, true_and]
  all_goals intros; split <;> simp

theorem vm_addValueToGeneration (m : ValuesMatrix) (v : ValueAggregate) (g : Nat) : ResIn L (m.addValueToGeneration v g) := by
  unfold ValuesMatrix.addValueToGeneration
  split
  · exact resIn_panic (by site)
  · simp

theorem vm_addToLastGeneration (m : ValuesMatrix) (v : ValueAggregate) : ResIn L (m.addToLastGeneration v) :=
  vm_addValueToGeneration _ _ _

theorem stream_addToSource (s : Stream) (v : ValueAggregate) (g : Generation) : ResIn L (s.addToSource v g) := by
  cases g <;> simp [Stream.addToSource, vm_addValueToGeneration, vm_addToLastGeneration]

theorem stream_addValue (s : Stream) (v : ValueAggregate) (g : Generation) : ResIn L (s.addValue v g) := by
  simp [Stream.addValue, stream_addToSource]

theorem addStreamValue_in (c : Ctx) (v : ValueAggregate) (n : String) (g : Generation) (pos : Nat) : ResIn L (c.addStreamValue v n g pos) := by
  unfold Ctx.addStreamValue
  split <;> simp [stream_addValue]

theorem streamScopeEnd_in (c : Ctx) (n : String) : ResIn L (c.streamScopeEnd n) := by
  unfold Ctx.streamScopeEnd
  split
  · exact resIn_panic (by site)
  · split
    · exact resIn_panic (by site)
    · dsimp only
      split
      · simp
      · simp
      · exact (stream_compactify _ _).of_eq ‹_›

theorem collectArgs_in (c : Ctx) : ∀ args : List Value, ResIn L (collectArgs c args)
  | [] => by simp [collectArgs]
  | a :: rest => by simp [collectArgs, resolveValue_in, collectArgs_in c rest]

theorem populateFromPeerServiceResult_in (env : Env) (c : Ctx) (r : JVal) (t : Tetraplet) (ah : String) (pos : Nat) (out : CallOutput) :
    ResIn L (populateFromPeerServiceResult env c r t ah pos out) := by
  cases out <;> simp [populateFromPeerServiceResult, sc_setScalarValue, addStreamValue_in]

theorem populateFromData_in (env : Env) [RawOk env L] (c : Ctx) (v : ValueRef) (ah : String) (t : Tetraplet) (pos : Nat) (out : CallOutput) (src : ValueSource) :
    ResIn L (populateFromData env c v ah t pos out src) := by
  unfold populateFromData
  split <;> simp [resolveServiceInfo_in, verifyCall_in, sc_setScalarValue, addStreamValue_in]

theorem pin_updateStateWithServiceResult (env : Env) (t : Tetraplet) (ah : String) (out : CallOutput) (sr : CallServiceResult) :
    PIn' L (updateStateWithServiceResult env t ah out sr) := by
  unfold updateStateWithServiceResult
  split
  · exact pin_bind' (pin_modifyCtx _) fun _ => pin_throwE _
  · split
    · exact pin_bind' (pin_modifyCtx _) fun _ => pin_throwE _
    · exact pin_modifyER fun c => by simp [populateFromPeerServiceResult_in]

theorem pin_handlePrevState (env : Env) [RawOk env L] (met : MetCallResult) (t : Tetraplet) (ah : Option String) (out : CallOutput) :
    PIn' L (handlePrevState env met t ah out) := by
  unfold handlePrevState
  split
  · -- failed
    apply pin_bind' (pin_readER fun c => resolveServiceInfo_in _ _ _); intro r
    apply pin_bind' (pin_unwrapHash (by site) _); intro h
    apply pin_bind' (pin_readER fun _ => verifyCall_in _ _ _ _); intro _
    split
    · split
      · simp
      · exact pin_bind' (pin_modifyCtx _) fun _ => pin_throwE _
    · simp
  · -- own request
    apply pin_bind' (pin_readCtx _); intro me
    split
    · apply pin_bind' (pin_readCtx _); intro found
      split
      · apply pin_bind' (pin_modifyCtx _); intro _
        apply pin_bind' (pin_unwrapHash (by site) _); intro h
        exact pin_bind' (pin_updateStateWithServiceResult _ _ _ _ _) fun _ => pin_pure' _
      · exact pin_bind' pin_makeSubgraphIncomplete fun _ => pin_pure' _
    · exact pin_sentByOther _ _
  · exact pin_sentByOther _ _
  · -- executed
    apply pin_bind' (pin_unwrapHash (by site) _); intro h
    apply pin_bind' (pin_modifyER fun c => populateFromData_in _ _ _ _ _ _ _ _); intro _
    exact pin_bind' (pin_modifyCtx _) fun _ => pin_pure' _

theorem resolveCall_in (c : Ctx) (p s f : Value) (out : CallOutput) : ResIn L (resolveCall c p s f out) := by
  simp [resolveCall, resolveToString_in, checkOutputName_in]

theorem checkArgs_in (c : Ctx) (args : List Value) : ResIn L (checkArgs c args) := by
  unfold checkArgs
  split
  · simp
  · simp
  · exact (collectArgs_in _ _).of_eq ‹_›

theorem issueRequest_in (t : Tetraplet) (args : List Value) (c : Ctx) : ResIn L (issueRequest t args c) := by
  unfold issueRequest
  split
  · split
    · exact resIn_panic (by site)
    · simp
  · simp
  · exact (collectArgs_in _ _).of_eq ‹_›

theorem pin_dispatch (t : Tetraplet) (args : List Value) (state : StateDescriptor) : PIn' L (dispatch t args state) := by
  unfold dispatch
  apply pin_bind' (pin_readCtx _); intro me
  split
  · exact pin_modifyCtx _
  · apply pin_bind (pin_tryM (pin_modifyER fun c => issueRequest_in t args c)); intro r hr
    split
    · simp
    · split
      · exact pin_bind' (pin_maybeSetPrevState _) fun _ => pin_throwE _
      · simp
    · exact pin_panicM (hr _ rfl)

theorem pin_prepareState (env : Env) [RawOk env L] (met : MergerCallResult) (t : Tetraplet) (ah : Option String) (out : CallOutput) :
    PIn' L (prepareState env met t ah out) := by
  unfold prepareState
  split
  · exact pin_handlePrevState _ _ _ _ _
  · simp

theorem pin_afterState (t : Tetraplet) (args : List Value) (state : StateDescriptor) : PIn' L (afterState t args state) := by
  unfold afterState
  split
  split
  · exact pin_maybeSetPrevState _
  · exact pin_dispatch _ _ _

theorem pin_resolvedExecute (env : Env) [RawOk env L] (i : Instr) (t : Tetraplet) (args : List Value) (out : CallOutput) :
    PIn' L (resolvedExecute env i t args out) := by
  unfold resolvedExecute
  apply pin_bind' (pin_readER fun c => checkArgs_in c args); intro checked
  apply pin_bind' (pin_liftTH i fun th => meetCallStart_in th); intro met
  exact pin_bind' (pin_prepareState _ _ _ _ _) fun _ => pin_afterState _ _ _

theorem pin_execCall (env : Env) [RawOk env L] (i : Instr) (p s f : Value) (args : List Value) (out : CallOutput) :
    PIn' L (execCall env i p s f args out) := by
  unfold execCall
  apply pin_bind' (pin_joinable (pin_onError _ (pin_readER fun c => resolveCall_in c p s f out))); intro r
  split
  · simp
  · exact pin_bind' (pin_joinable (pin_onError _ (pin_resolvedExecute _ _ _ _ _))) fun _ => pin_pure' _

end AquaProps.Panic
