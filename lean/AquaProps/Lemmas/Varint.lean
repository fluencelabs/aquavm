import Aqua.Crypto.CidVerify
import AquaProps.Lemmas.VarintU32
/-!
`unsigned-varint`: for every `n < 2^64`, `io::read_u64` on `encode::u64(n)` followed by `rest` returns `n` and
leaves `rest` unread.
-/
namespace AquaProps.Varint
open Aqua Aqua.Crypto.CidVerify AquaProps.Lemmas.Varint

theorem hibit (b : UInt8) : (b &&& 0x80 == 0) = decide (b.toNat < 128) := by
  have h : ∀ n, n < 256 → (UInt8.ofNat n &&& 0x80 == 0) = decide (n < 128) := by decide +kernel
  simpa using h b.toNat b.toNat_lt

theorem readU64Loop_encode (fe : Nat) : ∀ (fl n : Nat) (buf rest : Bytes), 0 < fe → n < 128 ^ fe → n < 128 ^ fl → 0 < fl →
    readU64Loop fl buf (encodeVarintFuel fe n ++ rest) =
      (match decodeU64 (buf ++ encodeVarintFuel fe n) with
       | .ok (v, _) => .ok (v, rest)
       | .error e => .error (.Decode e)) := by
  induction fe with
  | zero => intro _ _ _ _ h; omega
  | succ fe ih =>
    intro fl n buf rest _ h1 h2 h3
    obtain ⟨fl, rfl⟩ := Nat.exists_eq_succ_of_ne_zero (Nat.ne_of_gt h3)
    unfold encodeVarintFuel
    by_cases hn : n < 128
    · simp only [hn, if_true, List.singleton_append, readU64Loop, hibit, toNat_last hn, decide_true]
      rfl
    · have h1' := div128_lt h1
      have h2' := div128_lt h2
      simp only [hn, if_false, List.cons_append, readU64Loop, hibit, toNat_cont,
        Nat.not_lt.mpr (Nat.le_add_left _ _), decide_false, Bool.false_eq_true]
      rw [ih fl (n / 128) _ rest (pos_of_lt_pow (by omega) h1') h1' h2' (pos_of_lt_pow (by omega) h2'),
        List.append_assoc, List.singleton_append]

/-- `acc` holds the `i`
groups already read (`acc < 2^(7i)`), nothing is shifted out of the 64-bit word (`n * 2^(7i) < 2^64`), and a
number continued at position `i > 0` is not zero (so the last byte is not a redundant `0x00`). -/
theorem decodeU64Aux_encode (fe : Nat) : ∀ (n i acc : Nat), 0 < fe → n < 128 ^ fe → acc < 2 ^ (i * 7) →
    acc + n * 2 ^ (i * 7) < 2 ^ 64 → (0 < i → 0 < n) →
    decodeU64Aux (encodeVarintFuel fe n) i acc = .ok (acc + n * 2 ^ (i * 7), []) := by
  induction fe with
  | zero => intro _ _ _ h; omega
  | succ fe ih =>
    intro n i acc _ h1 hacc hfit hpos
    obtain ⟨hacc', hval⟩ := group_step acc n i hacc
    have hshift : ∀ k, k ≤ n → (k <<< (i * 7)) % 2 ^ 64 = k * 2 ^ (i * 7) := fun k hk => by
      have : k * 2 ^ (i * 7) ≤ n * 2 ^ (i * 7) := Nat.mul_le_mul_right _ hk
      rw [Nat.shiftLeft_eq, Nat.mod_eq_of_lt (by omega)]
    unfold encodeVarintFuel
    by_cases hn : n < 128
    · have hnm : ¬ (n = 0 ∧ i > 0) := fun ⟨h0, hi⟩ => by have := hpos hi; omega
      simp only [hn, if_true, decodeU64Aux, hibit, toNat_last hn, decide_true, gt_iff_lt, Bool.and_eq_true, beq_iff_eq,
        ← UInt8.toNat_inj, UInt8.toNat_zero, decide_eq_true_eq, hnm, if_false, Nat.mod_eq_of_lt hn,
        hshift n (Nat.le_refl n), ← Nat.shiftLeft_eq, lor_shift _ _ _ hacc]
    · have h1' := div128_lt h1
      have hi9 : ¬ i = 9 := by have := group_fits acc n i 64 (by omega) hfit; omega
      simp only [hn, if_false, decodeU64Aux, hibit, toNat_cont, Nat.not_lt.mpr (Nat.le_add_left _ _), decide_false,
        Bool.false_eq_true, Nat.add_mod_right, Nat.mod_mod, hshift _ (Nat.mod_le n 128), beq_iff_eq, hi9]
      rw [← Nat.shiftLeft_eq, lor_shift _ _ _ hacc,
        ih (n / 128) (i + 1) _ (pos_of_lt_pow (by omega) h1') h1' hacc' (by omega) (fun _ => by omega), hval]

theorem readU64_encodeVarint (n : Nat) (h : n < 2 ^ 64) (rest : Bytes) :
    readU64 (encodeVarint n ++ rest) = .ok (n, rest) := by
  have hlt : n < 128 ^ (n + 1) :=
    calc n < 2 ^ n := Nat.lt_two_pow_self
      _ ≤ 128 ^ n := Nat.pow_le_pow_left (by decide) n
      _ ≤ 128 ^ (n + 1) := Nat.pow_le_pow_right (by decide) (Nat.le_succ n)
  unfold readU64 encodeVarint
  rw [readU64Loop_encode (n + 1) 10 n [] rest (by omega) hlt (by omega) (by decide), List.nil_append, decodeU64,
    decodeU64Aux_encode (n + 1) n 0 0 (by omega) hlt (by decide) (by omega) (by omega)]
  simp

end AquaProps.Varint
