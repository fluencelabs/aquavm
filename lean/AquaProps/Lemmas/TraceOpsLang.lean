import AquaProps.Lemmas.TraceKeeper
/-!
The operation language the executor drives the trace handler with, and the effect of the merger, push and par
operations on the result trace, the par stack and the fold FSM map.
-/
namespace Aqua.Trace
open Aqua Aqua.Data

/-- one call of the `TraceHandler` API (answers of the `*_start` mergers are dropped: they do not matter for the
shape of the result trace) -/
inductive HOp
  | callStart | callEnd (c : CallResult)
  | apStart | apEnd (gens : List Nat)
  | canonStart | canonEnd (c : CanonResult)
  | parStart | parEnd (t : SubgraphType)
  | foldStart (id : Nat) | iterStart (id pos : Nat) | iterEnd (id : Nat) | backIter (id : Nat)
  | genEnd (id : Nat) | foldEnd (id : Nat)
  | updateGeneration (pos gen : Nat)
deriving Repr, DecidableEq

def resOk {ε α} : Res ε α → Option α
  | .ok a => some a
  | _ => none

theorem resOk_eq_some {ε α} {r : Res ε α} {a : α} : resOk r = some a ↔ r = .ok a := by
  cases r <;> simp [resOk]

theorem resOk_map_snd {ε α β} {r : Res ε (α × β)} {b : β} : (resOk r).map (·.2) = some b ↔ ∃ a, r = .ok (a, b) := by
  constructor
  · intro h
    obtain ⟨⟨a, _⟩, h', rfl⟩ := Option.map_eq_some_iff.mp h
    exact ⟨a, resOk_eq_some.mp h'⟩
  · rintro ⟨a, rfl⟩; rfl

/-- apply one operation; `none` = the real call returned an error (or panicked): the run is abandoned -/
def HOp.apply (h : TraceHandler) : HOp → Option TraceHandler
  | .callStart => (resOk h.meetCallStart).map (·.2)
  | .callEnd c => some (h.meetCallEnd c)
  | .apStart => (resOk h.meetApStart).map (·.2)
  | .apEnd g => some (h.meetApEnd g)
  | .canonStart => (resOk h.meetCanonStart).map (·.2)
  | .canonEnd c => some (h.meetCanonEnd c)
  | .parStart => resOk h.meetParStart
  | .parEnd t => resOk (h.meetParSubgraphEnd t)
  | .foldStart id => resOk (h.meetFoldStart id)
  | .iterStart id p => resOk (h.meetIterationStart id p)
  | .iterEnd id => resOk (h.meetIterationEnd id)
  | .backIter id => resOk (h.meetBackIterator id)
  | .genEnd id => resOk (h.meetGenerationEnd id)
  | .foldEnd id => resOk (h.meetFoldEnd id)
  | .updateGeneration p g => resOk (h.updateGeneration p g)

def runOps : List HOp → TraceHandler → Option TraceHandler
  | [], h => some h
  | op :: rest, h => (op.apply h).bind (runOps rest)

theorem runOps_cons {op : HOp} {rest : List HOp} {h h' : TraceHandler} :
    runOps (op :: rest) h = some h' ↔ ∃ h1, op.apply h = some h1 ∧ runOps rest h1 = some h' :=
  Option.bind_eq_some_iff

theorem runOps_append (a b : List HOp) (h : TraceHandler) :
    runOps (a ++ b) h = (runOps a h).bind (runOps b) := by
  induction a generalizing h with
  | nil => rfl
  | cons op rest ih => cases e : op.apply h <;> simp [runOps, e, ih]

theorem runOps_append_some {a b : List HOp} {h h' : TraceHandler} :
    runOps (a ++ b) h = some h' ↔ ∃ h1, runOps a h = some h1 ∧ runOps b h1 = some h' := by
  rw [runOps_append, Option.bind_eq_some_iff]

abbrev TraceHandler.tr (h : TraceHandler) : Trace := h.keeper.resultTrace

theorem pushState_eff (h : TraceHandler) (s : ExecutedState) :
    (h.pushState s).tr = h.tr ++ [s] ∧ (h.pushState s).parStack = h.parStack ∧ (h.pushState s).foldMap = h.foldMap :=
  ⟨rfl, rfl, rfl⟩

variable {h h' : TraceHandler}

theorem meetCallStart_eff {r} (e : h.meetCallStart = .ok (r, h')) :
    h'.tr = h.tr ∧ h'.parStack = h.parStack ∧ h'.foldMap = h.foldMap := by
  unfold TraceHandler.meetCallStart at e
  simp only [Res.bind_eq_ok, Res.pure_eq_ok, Prod.mk.injEq] at e
  obtain ⟨_, hk, _, rfl⟩ := e
  exact ⟨tryMergeNextStateAsCall_trace hk, rfl, rfl⟩

theorem meetApStart_eff {r} (e : h.meetApStart = .ok (r, h')) :
    h'.tr = h.tr ∧ h'.parStack = h.parStack ∧ h'.foldMap = h.foldMap := by
  unfold TraceHandler.meetApStart at e
  simp only [Res.bind_eq_ok, Res.pure_eq_ok, Prod.mk.injEq] at e
  obtain ⟨_, hk, _, rfl⟩ := e
  exact ⟨tryMergeNextStateAsAp_trace hk, rfl, rfl⟩

theorem meetCanonStart_eff {r} (e : h.meetCanonStart = .ok (r, h')) :
    h'.tr = h.tr ∧ h'.parStack = h.parStack ∧ h'.foldMap = h.foldMap := by
  unfold TraceHandler.meetCanonStart at e
  simp only [Res.bind_eq_ok, Res.pure_eq_ok, Prod.mk.injEq] at e
  obtain ⟨_, hk, _, rfl⟩ := e
  exact ⟨tryMergeNextStateAsCanon_trace hk, rfl, rfl⟩

/-- `ParFSM::from_left_started`: the placeholder is appended at the reserved position, `ParBuilder` starts counting
after it -/
theorem fromLeftStarted_eff {pp cp : ParResult} {k k' : DataKeeper} {f : ParFSM}
    (e : ParFSM.fromLeftStarted pp cp k = .ok (f, k')) :
    k'.resultTrace = k.resultTrace ++ [.par 0 0] ∧ f.inserterPos = k.resultTrace.length ∧
      f.savedStatesCount = k.resultTrace.length + 1 := by
  unfold ParFSM.fromLeftStarted at e
  simp only [Res.bind_eq_ok, Res.pure_eq_ok, Prod.mk.injEq] at e
  obtain ⟨_, _, _, _, _, _, _, _, k2, hk2, rfl, rfl⟩ := e
  exact ⟨parPrepareSliders_trace hk2, rfl, List.length_append⟩

theorem meetParStart_eff (e : h.meetParStart = .ok h') :
    ∃ f, h'.parStack = f :: h.parStack ∧ f.inserterPos = h.tr.length ∧ f.savedStatesCount = h.tr.length + 1 ∧
      h'.tr = h.tr ++ [.par 0 0] ∧ h'.foldMap = h.foldMap := by
  unfold TraceHandler.meetParStart at e
  simp only [Res.bind_eq_ok, Res.pure_eq_ok] at e
  obtain ⟨⟨pp, cp, k1⟩, hk1, ⟨f, k2⟩, hk2, rfl⟩ := e
  have h1 : k1.resultTrace = h.tr := tryMergeNextStateAsPar_trace hk1
  rw [← h1]
  obtain ⟨ht, hi, hs⟩ := fromLeftStarted_eff hk2
  exact ⟨f, rfl, hi, hs, ht, rfl⟩

theorem leftCompleted_eff {f f' : ParFSM} {k k' : DataKeeper} (e : f.leftCompleted k = .ok (f', k')) :
    f' = f.track k .left ∧ k'.resultTrace = k.resultTrace := by
  unfold ParFSM.leftCompleted at e
  simp only [Res.bind_eq_ok] at e
  obtain ⟨k1, hk1, e⟩ := e
  have h1 := updateCtxStates_trace hk1
  split at e
  · rename_i k2 hk2
    cases e; exact ⟨rfl, (parPrepareSliders_trace hk2).trans h1⟩
  · split at e <;> cases e <;> exact ⟨rfl, h1⟩
  · cases e

theorem rightCompleted_eff {f : ParFSM} {k k' : DataKeeper} (e : f.rightCompleted k = .ok k') :
    k'.resultTrace = setAt k.resultTrace f.inserterPos
      (.par (truncU32 f.leftSize) (truncU32 (k.resultTrace.length - f.savedStatesCount))) :=
  updateCtxStates_trace e

theorem meetParSubgraphEnd_left_eff (e : h.meetParSubgraphEnd .left = .ok h') :
    ∃ f rest, h.parStack = f :: rest ∧ h'.parStack = f.track h.keeper .left :: rest ∧ h'.tr = h.tr ∧
      h'.foldMap = h.foldMap := by
  unfold TraceHandler.meetParSubgraphEnd at e
  split at e
  · cases e
  · rename_i f rest hst
    simp only [Res.bind_eq_ok, Res.pure_eq_ok] at e
    obtain ⟨⟨f', k'⟩, hk, rfl⟩ := e
    obtain ⟨rfl, ht⟩ := leftCompleted_eff hk
    exact ⟨f, rest, hst, rfl, ht, rfl⟩

theorem meetParSubgraphEnd_right_eff (e : h.meetParSubgraphEnd .right = .ok h') :
    ∃ f rest, h.parStack = f :: rest ∧ h'.parStack = rest ∧
      h'.tr = setAt h.tr f.inserterPos (.par (truncU32 f.leftSize) (truncU32 (h.tr.length - f.savedStatesCount))) ∧
      h'.foldMap = h.foldMap := by
  unfold TraceHandler.meetParSubgraphEnd at e
  split at e
  · cases e
  · rename_i f rest hst
    simp only [Res.bind_eq_ok, Res.pure_eq_ok] at e
    obtain ⟨k', hk, rfl⟩ := e
    exact ⟨f, rest, hst, rfl, rightCompleted_eff hk, rfl⟩

end Aqua.Trace
