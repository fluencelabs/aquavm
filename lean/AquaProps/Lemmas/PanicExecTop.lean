import AquaProps.Lemmas.PanicExec
/-!
C01: the instruction interpreter.  One lemma per arm of `execInner` that runs sub-instructions (each takes the
induction hypothesis `ih` for the smaller fuel; the arms that only call a helper are closed by the helper's lemma), the
case split `pin_execInner` and the induction `exec_panic_sites`.
-/
namespace AquaProps.Panic
open Aqua Aqua.Exec Aqua.Air Aqua.Trace Aqua.Json Aqua.Data

variable {L : List String}

attribute [local simp] catchable uncatchable unmodelled lambdaErr

theorem withScalars_in {c : Ctx} {g : Scalars → ER Scalars} (h : ResIn L (g c.scalars)) : ResIn L (withScalars c g) := by
  simp [withScalars, h]

theorem withScalarsRet_in {α} {c : Ctx} {g : Scalars → ER (α × Scalars)} (h : ResIn L (g c.scalars)) : ResIn L (withScalarsRet c g) := by
  simp [withScalarsRet, h]

theorem pin_throwIfNotCatchable {r : Res ExecErr Unit} (h : ResIn L r) : PIn' L (throwIfNotCatchable r) := by
  unfold throwIfNotCatchable
  split
  · simp
  · simp
  · exact pin_reraise h

theorem pin_maybeTH (i : Instr) (fs : FoldState) (f : Nat → TraceHandler → TR TraceHandler) (h : ∀ id th, ResIn L (f id th)) :
    PIn' L (maybeTH i fs f) := by
  unfold maybeTH
  split
  · exact pin_liftTH' i fun th => h _ th
  · simp

theorem checkErrorObject_in (v : JVal) : ResIn L (checkErrorObject v) := by
  unfold checkErrorObject
  split
  · split
    · simp
    · split
      · simp only [resIn_ite, resIn_error, implies_true, true_and]
        intros; split <;> simp
      · simp
  · simp

theorem pin_failWithErrorObject (v : JVal) (t : Option Tetraplet) (p : Provenance) : PIn' L (failWithErrorObject v t p) :=
  pin_bind' (pin_modifyCtx _) fun _ => pin_throwE _

theorem pin_execFailError (v : JVal) (t : Option Tetraplet) (p : Provenance) : PIn' L (execFailError v t p) := by
  unfold execFailError
  apply pin_bind' (pin_readCtx _); intro orig
  apply pin_bind (pin_tryM (pin_failWithErrorObject _ _ _)); intro r hr
  apply pin_bind' (pin_modifyCtx _); intro _
  split
  · simp
  · exact pin_reraise hr

theorem pin_setScalar (n : String) (v : ValueAggregate) : PIn' L (setScalar n v) :=
  pin_modifyER fun _ => withScalars_in (sc_setScalarValue _ _ _)

theorem foldEnter_in (it : String) (fs : FoldState) (c : Ctx) : ResIn L (foldEnter it fs c) :=
  withScalars_in (sc_setIterableValue _ _ _)

theorem nextAdvance_in (it : String) (c : Ctx) : ResIn L (nextAdvance it c) :=
  withScalarsRet_in (by simp [sc_getIterable])

theorem nextBack_in (it : String) (c : Ctx) : ResIn L (nextBack it c) :=
  withScalars_in (by simp [sc_getIterable])

theorem pin_nextMarkBackIteration (it : String) : PIn' L (nextMarkBackIteration it) :=
  pin_modifyER fun c => by
    simp only [resIn_rbind_iff, sc_getIterable, true_and]
    intros; split <;> simp

theorem getValueFromObjAgg_in (kv : ValueAggregate) : ResIn L (getValueFromObjAgg kv) := by
  simp only [getValueFromObjAgg, resIn_rbind_iff, resIn_ok, implies_true, and_true]
  unfold Lens.getValueFromObj
  split
  · split <;> simp
  · simp

theorem fromCanonStreamLoopAgg_in (t : Tetraplet) : ∀ (vals : List ValueAggregate) (m : List (Lens.StreamMapKey × CanonStream)),
    ResIn L (fromCanonStreamLoopAgg t m vals)
  | [], m => by simp [fromCanonStreamLoopAgg]
  | kv :: rest, m => by
    unfold fromCanonStreamLoopAgg
    split
    · simp
    · split
      · exact fromCanonStreamLoopAgg_in t rest _
      · simp
      · exact (getValueFromObjAgg_in _).of_eq ‹_›

theorem fromCanonStreamAgg_in (cs : CanonStream) : ResIn L (CanonStreamMapAgg.fromCanonStream cs) := by
  unfold CanonStreamMapAgg.fromCanonStream
  split
  · simp
  · simp
  · exact (fromCanonStreamLoopAgg_in _ _ _).of_eq ‹_›

theorem canonBind_in (target : CanonTarget) (cs : CanonStream) (cid : Cid) (c : Ctx) : ResIn L (canonBind target cs cid c) := by
  cases target <;> simp only [canonBind]
  · exact sc_setCanonValue _ _ _
  · simp [fromCanonStreamAgg_in, sc_setCanonMapValue]
  · split <;> simp [sc_setScalarValue]

theorem pin_canonFinish (n : CanonTarget) (cs : CanonStream) (cid : Cid) (reg : String) : PIn' L (canonFinish n cs cid reg) :=
  pin_modifyER fun c => by simp [canonBind_in]

theorem pin_createCanonFirstTime (env : Env) (n : CanonTarget) (st : String) (pos : Nat) (peer : String) : PIn' L (createCanonFirstTime env n st pos peer) :=
  pin_bind' (pin_stateER fun _ => resIn_ok _) fun _ => pin_canonFinish _ _ _ _

variable [Sites L]

theorem failOperand_in (c : Ctx) (arg : FailArg) : ResIn L (failOperand c arg) := by
  cases arg <;> simp [failOperand, errObjER, resolveValue_in, checkErrorObject_in]

theorem pin_execFail (arg : FailArg) : PIn' L (execFail arg) := by
  unfold execFail
  apply pin_bind' (pin_readER fun c => failOperand_in c arg); intro r
  split
  · exact pin_execFailError _ _ _
  · exact pin_failWithErrorObject _ _ _

theorem applyToArg_in (c : Ctx) (arg : Value) : ResIn L (applyToArg c arg) := by
  cases arg <;> simp only [applyToArg, resIn_ok, resIn_bind_iff, resolveValue_in, sc_getValue, sc_getCanonStream,
    sc_getCanonMap, resIn_pure, implies_true, and_true, true_and]
  case scalar => intros; split <;> simp [it_peekExpect]
  all_goals
    intro ⟨v, ts, p⟩ hr
    split
    · simp
    · -- `tetraplets.remove(0)`: the resolver returns a tetraplet for these arguments
      have := resolveValue_tetraplets _ _ _ _ (‹ts = []› ▸ hr)
      simp at this

theorem applyToArgStream_in (c : Ctx) (arg : Value) : ResIn L (applyToArgStream c arg) := by
  unfold applyToArgStream
  split <;> simp [applyToArg_in]

theorem pin_execAp (arg : Value) (out : CallOutput) : PIn' L (execAp arg out) := by
  unfold execAp
  split
  · apply pin_bind' (pin_joinable (pin_readER fun c => applyToArg_in c arg)); intro r
    split
    · simp
    · exact pin_setScalar _ _
  · simp

theorem pin_execApStream (i : Instr) (arg : Value) (name : String) (pos : Nat) : PIn' L (execApStream i arg name pos) := by
  unfold execApStream
  apply pin_bind' (pin_joinable (pin_readER fun c => applyToArgStream_in c arg)); intro r
  split
  · simp
  · apply pin_bind' (pin_liftTH i fun th => meetApStart_in th); intro met
    exact pin_bind' (pin_modifyER fun c => addStreamValue_in _ _ _ _ _) fun _ => pin_modifyCtx _

theorem resolveKeyIfNeeded_in (c : Ctx) (key : Value) (m : String) : ResIn L (resolveKeyIfNeeded c key m) := by
  cases key <;> simp only [resolveKeyIfNeeded, resIn_ok, unmodelled, resIn_error, resIn_bind_iff, resolveValue_in, true_and]
  all_goals intros; split <;> simp

theorem addStreamMapValue_in (c : Ctx) (k : Lens.StreamMapKey) (v : ValueAggregate) (n : String) (g : Generation) (pos : Nat) :
    ResIn L (c.addStreamMapValue k v n g pos) := addStreamValue_in _ _ _ _ _

theorem pin_execApMap (i : Instr) (key val : Value) (name : String) (pos : Nat) : PIn' L (execApMap i key val name pos) := by
  unfold execApMap
  apply pin_bind' (pin_joinable (pin_readER fun c => applyToArgStream_in c val)); intro r
  split
  · simp
  · apply pin_bind' (pin_joinable (pin_readER fun c => resolveKeyIfNeeded_in c key name)); intro k
    split
    · simp
    · apply pin_bind' (pin_liftTH i fun th => meetApStart_in th); intro met
      exact pin_bind' (pin_modifyER fun c => addStreamMapValue_in _ _ _ _ _ _) fun _ => pin_modifyCtx _

theorem canonRead_in (env : Env) [RawOk env L] (peer : Value) (cid : Cid) (c : Ctx) : ResIn L (canonRead env peer cid c) := by
  simp only [canonRead, resIn_bind_iff, resolveToString_in, true_and]
  intros
  split <;> simp [getTetrapletByCid_in, verifyCanon_in, resIn_mapM (getCanonValueByCid_in env c.cid)]

theorem pin_canonExecuted (env : Env) [RawOk env L] (n : CanonTarget) (peer : Value) (cid : Cid) : PIn' L (canonExecuted env n peer cid) :=
  pin_bind' (pin_readER fun c => canonRead_in env peer cid c) fun _ => pin_canonFinish _ _ _ _

theorem pin_execCanon (env : Env) [RawOk env L] (i : Instr) (peer : Value) (st : String) (pos : Nat) (n : CanonTarget) : PIn' L (execCanon env i peer st pos n) := by
  unfold execCanon
  apply pin_bind' (pin_liftTH i fun th => meetCanonStart_in th); intro met
  split
  · exact pin_canonExecuted _ _ _ _
  · apply pin_bind' (pin_readER fun c => resolveToString_in c peer); intro peerId
    apply pin_bind' (pin_readCtx _); intro me
    split
    · simp
    · exact pin_createCanonFirstTime _ _ _ _ _
  · apply pin_bind' (pin_joinable (pin_readER fun c => resolveToString_in c peer)); intro r
    split
    · simp
    · apply pin_bind' (pin_readCtx _); intro me
      split
      · simp
      · exact pin_createCanonFirstTime _ _ _ _ _

theorem areMatchableEq_in (c : Ctx) (a b : Value) : ResIn L (areMatchableEq c a b) := by
  simp [areMatchableEq, resolveValue_in]

theorem createScalarIterable_in (c : Ctx) (it : Value) : ResIn L (createScalarIterable c it) := by
  have fromValue (v : ValueAggregate) (name : String) : ResIn L
      (match v.result with
        | .arr a => if a.isEmpty then (.ok none : ER (Option IterableValue)) else .ok (some (.resolvedCall v 0 a.length))
        | other => catchable (.foldIteratesOverNonArray other name)) := by
    split <;> simp
  cases it <;> simp only [createScalarIterable, resIn_ok, unmodelled, resIn_error, resIn_bind_iff, sc_getValue, scalarRef_parts,
    selectByLambdaFromScalar_in, sc_getCanonStream, sc_getCanonMap, true_and]
  case scalar =>
    intros; split
    · exact fromValue _ _
    · simp only [resIn_bind_iff, it_peekExpect, true_and]
      exact fun _ _ => fromValue _ _
  case scalarWL => intros; split <;> simp
  case canon => simp
  case canonMap => simp
  case canonMapWL =>
    intro cm _
    simp only [resIn_ite, resIn_pure, implies_true, true_and, resIn_bind_iff]
    refine fun _ => ⟨lensOfLambda_in _ _ fun lam hlam => lens_selectByLambdaFromCanonMap_in _ _ _ lam hlam, fun _ _ => ?_⟩
    split <;> simp

theorem foldLeave_in (it : String) (c : Ctx) : ResIn L (foldLeave it c) := withScalars_in (sc_meetFoldEnd _)

theorem nextAfter_in (c : Ctx) : ResIn L (nextAfter c) := withScalars_in (sc_meetNextAfter _)

theorem pin_foldStreamGet (n : String) (pos : Nat) : PIn' L (foldStreamGet n pos) :=
  pin_readER fun c => by
    split
    · simp
    · exact resIn_panic (by site)

section arms
variable (env : Env) (fuel : Nat) (ih : ∀ i, PIn' L (exec env fuel i))
include ih

section
omit [Sites L]   -- sequencing and the `par` bookkeeping have no site of their own

theorem pin_execSubgraph (par sub : Instr) (t : SubgraphType) : PIn' L (execSubgraph env fuel par sub t) := by
  unfold execSubgraph
  apply pin_bind' (pin_modifyCtx _); intro _
  apply pin_bind (pin_tryM (ih sub)); intro res hres
  split
  · apply pin_bind' (pin_liftTH' par fun th => meetParSubgraphEnd_in th t); intro _
    exact pin_bind' (pin_readCtx _) fun _ => pin_pure' _
  · apply pin_bind' pin_makeSubgraphIncomplete; intro _
    apply pin_bind' (pin_liftTH' par fun th => meetParSubgraphEnd_in th t); intro _
    exact pin_bind' (pin_readCtx _) fun _ => pin_pure' _
  · exact pin_bind' pin_makeSubgraphIncomplete fun _ => pin_throwE _
  · exact pin_panicM (hres _ rfl)

theorem arm_seq (l r : Instr) : PIn' L (execInner env fuel (.seq l r)) := by
  unfold execInner
  apply pin_bind' (pin_modifyCtx _); intro _
  apply pin_bind' (ih l); intro _
  apply pin_bind' (pin_readCtx _); intro complete
  split <;> simp [ih]

theorem arm_xor (l r : Instr) : PIn' L (execInner env fuel (.xor l r)) := by
  unfold execInner
  apply pin_bind' (pin_modifyCtx _); intro _
  apply pin_bind (pin_tryM (ih l)); intro res hres
  split
  · apply pin_bind' (pin_modifyCtx _); intro _
    apply pin_bind (pin_tryM (ih r)); intro right hright
    apply pin_bind' (pin_modifyCtx _); intro _
    exact pin_reraise hright
  · exact pin_reraise hres

theorem arm_par (l r : Instr) : PIn' L (execInner env fuel (.par l r)) := by
  unfold execInner
  apply pin_bind' (pin_liftTH' _ fun th => meetParStart_in th); intro _
  apply pin_bind' (pin_execSubgraph env fuel ih _ _ _); intro left
  apply pin_bind' (pin_execSubgraph env fuel ih _ _ _); intro right
  apply pin_bind' (pin_modifyCtx _); intro _
  split <;> simp

end

theorem arm_match (a b : Value) (body : Instr) : PIn' L (execInner env fuel (.match_ a b body)) := by
  unfold execInner
  apply pin_bind' (pin_joinable (pin_readER fun c => areMatchableEq_in c a b)); intro r
  split <;> simp [ih]

theorem arm_mismatch (a b : Value) (body : Instr) : PIn' L (execInner env fuel (.mismatch a b body)) := by
  unfold execInner
  apply pin_bind' (pin_joinable (pin_readER fun c => areMatchableEq_in c a b)); intro r
  split <;> simp [ih]

theorem arm_foldScalar (iterable : Value) (iterator : String) (body : Instr) (last : Option Instr) :
    PIn' L (execInner env fuel (.foldScalar iterable iterator body last)) := by
  unfold execInner
  apply pin_bind' (pin_joinable (pin_readER fun c => createScalarIterable_in c iterable)); intro r
  split
  · simp
  · simp
  · apply pin_bind' (pin_modifyER fun c => foldEnter_in _ _ c); intro _
    apply pin_bind (pin_tryM (ih body)); intro res hres
    apply pin_bind' (pin_modifyER fun c => foldLeave_in _ c); intro _
    exact pin_reraise hres

theorem arm_next (iterator : String) : PIn' L (execInner env fuel (.next iterator)) := by
  unfold execInner
  apply pin_bind' (pin_readER fun c => sc_getIterable _ _); intro fs0
  apply pin_bind' (pin_maybeTH _ _ _ fun id th => meetIterationEnd_in th id); intro _
  apply pin_bind' (pin_stateER fun c => nextAdvance_in iterator c); intro r
  split
  · apply pin_bind' (pin_maybeTH _ _ _ fun id th => meetBackIterator_in th id); intro _
    apply pin_bind' (pin_readER fun c => sc_getIterable _ _); intro fs
    split
    · exact pin_bind' (pin_modifyCtx _) fun _ => ih _
    · exact pin_nextMarkBackIteration _
  · rename_i fs
    apply pin_bind' (pin_readER fun _ => it_peekExpect _); intro item
    apply pin_bind' (pin_maybeTH _ _ _ fun id th => meetIterationStart_in th id _); intro _
    apply pin_bind (pin_tryM (ih _)); intro res hres
    apply pin_bind' (pin_modifyER fun c => nextAfter_in c); intro _
    split
    · apply pin_bind' (pin_modifyER fun c => nextBack_in _ c); intro _
      exact pin_maybeTH _ _ _ fun id th => meetBackIterator_in th id
    · exact pin_reraise hres

theorem arm_new (arg : NewArg) (body : Instr) (a b : Nat) : PIn' L (execInner env fuel (.new arg body a b)) := by
  unfold execInner
  split <;> (apply pin_bind' (pin_modifyCtx _); intro _; apply pin_bind (pin_tryM (ih body)); intro res hres)
  case h_2 | h_3 =>   -- stream, stream map (one store): the scope is closed whatever the body returned
    apply pin_bind (pin_tryM (pin_modifyER fun c => streamScopeEnd_in c _)); intro ep hep
    split
    · simp
    · exact pin_reraise hep
    · exact pin_reraise hres
  all_goals   -- scalar, canon, canon map
    apply pin_bind' (pin_stateER fun c => withScalarsRet_in (resIn_ok _)); intro ok
    split
    · split
      · simp
      · exact pin_bind' (pin_readCtx _) fun _ => pin_throwE _
    · exact pin_reraise hres

theorem pin_execFoldIterations (i : Instr) (iterator : String) (body : Instr) (last : Option Instr) (foldId : Nat) :
    ∀ (its : List (List ValueAggregate)) (acc : Bool), PIn' L (execFoldIterations env fuel i iterator body last foldId its acc)
  | [], acc => by simp [execFoldIterations]
  | vals :: rest, acc => by
    unfold execFoldIterations
    split
    · exact pin_execFoldIterations i iterator body last foldId rest acc
    · apply pin_bind' (pin_liftTH' i fun th => meetIterationStart_in th _ _); intro _
      apply pin_bind' (pin_modifyER fun c => foldEnter_in _ _ c); intro _
      apply pin_bind (pin_tryM (ih body)); intro res hres
      apply pin_bind' (pin_modifyER fun c => foldLeave_in _ c); intro _
      apply pin_bind' (pin_throwIfNotCatchable hres); intro _
      apply pin_bind' (pin_liftTH' i fun th => meetGenerationEnd_in th _); intro _
      apply pin_bind' (pin_readCtx _); intro complete
      exact pin_execFoldIterations i iterator body last foldId rest _

theorem pin_execFoldStreamLoop (i : Instr) (stream : String) (streamPos : Nat) (iterator : String) (body : Instr) (last : Option Instr) (foldId : Nat) :
    ∀ (n : Nat) (st : Option (List (List ValueAggregate))) (cur : StreamCursor) (acc : Bool),
      PIn' L (execFoldStreamLoop env fuel n i stream streamPos iterator body last foldId st cur acc)
  | n, none, cur, acc => by simp [execFoldStreamLoop]
  | 0, some l, cur, acc => by simp [execFoldStreamLoop]
  | n + 1, some l, cur, acc => by
    unfold execFoldStreamLoop
    apply pin_bind' (pin_execFoldIterations env fuel ih i iterator body last foldId l acc); intro acc'
    apply pin_bind' (pin_foldStreamGet _ _); intro s
    dsimp only
    apply pin_bind' (pin_modifyCtx _); intro _
    exact pin_execFoldStreamLoop i stream streamPos iterator body last foldId n _ _ _

theorem arm_foldStream (stream : String) (streamPos : Nat) (iterator : String) (body : Instr) (last : Option Instr) (sl : Nat) :
    PIn' L (execInner env fuel (.foldStream stream streamPos iterator body last sl)) ∧
    PIn' L (execInner env fuel (.foldMap stream streamPos iterator body last sl)) := by
  constructor <;>
  · unfold execInner
    apply pin_bind' (pin_readCtx _); intro ex
    split
    · exact pin_makeSubgraphIncomplete
    · apply pin_bind' (pin_stateER fun c => resIn_ok _); intro foldId
      apply pin_bind' (pin_liftTH' _ fun th => meetFoldStart_in th _); intro _
      apply pin_bind' (pin_foldStreamGet _ _); intro s
      dsimp only
      apply pin_bind' (pin_modifyCtx _); intro _
      apply pin_bind' (pin_execFoldStreamLoop env fuel ih _ _ _ _ _ _ _ _ _ _ _); intro complete
      apply pin_bind' (pin_modifyCtx _); intro _
      exact pin_liftTH' _ fun th => meetFoldEnd_in th _

theorem pin_execInner [RawOk env L] (i : Instr) : PIn' L (execInner env fuel i) := by
  cases i with
  | call p s f args out => simp [execInner]
  | null => simp [execInner]
  | never => simp [execInner]
  | seq l r => exact arm_seq env fuel ih l r
  | xor l r => exact arm_xor env fuel ih l r
  | par l r => exact arm_par env fuel ih l r
  | match_ a b body => exact arm_match env fuel ih a b body
  | mismatch a b body => exact arm_mismatch env fuel ih a b body
  | ap arg out =>
    unfold execInner
    split
    · exact pin_execApStream _ _ _ _
    · exact pin_execAp _ _
  | fail arg => unfold execInner; exact pin_execFail _
  | foldScalar it n body last => exact arm_foldScalar env fuel ih it n body last
  | next n => exact arm_next env fuel ih n
  | new arg body a b => exact arm_new env fuel ih arg body a b
  | canon peer st pos n => unfold execInner; exact pin_execCanon _ _ _ _ _ _
  | foldStream st pos it body last sl => exact (arm_foldStream env fuel ih st pos it body last sl).1
  | apMap key val name pos => unfold execInner; exact pin_execApMap _ _ _ _ _
  | canonMap peer st pos n => unfold execInner; exact pin_execCanon _ _ _ _ _ _
  | canonMapScalar peer st pos n => unfold execInner; exact pin_execCanon _ _ _ _ _ _
  | foldMap st pos it body last sl => exact (arm_foldStream env fuel ih st pos it body last sl).2

end arms

theorem exec_panic_sites (env : Env) [RawOk env L] : ∀ (fuel : Nat) (i : Instr), PIn' L (exec env fuel i)
  | 0, i => by simp [exec]
  | fuel + 1, i => by
    unfold exec
    split
    · exact pin_execCall _ _ _ _ _ _ _
    · exact pin_onError _ (pin_execInner env fuel (exec_panic_sites env fuel) i)

end AquaProps.Panic
