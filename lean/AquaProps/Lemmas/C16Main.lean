import AquaProps.Lemmas.C16Sim
/-!
# C16 lemmas, part 5: the induction over the interpreter (flat sub-fragment)
-/
namespace AquaProps.C16
open Aqua Aqua.Json Aqua.Air Aqua.Exec Aqua.Ref

variable {O : Oracle} {env : Env} {p : Params} {cs : CidState} {T1 T2 : Data.Trace} {fuel : Nat}

/-- the induction hypothesis: the simulation statement at a given fuel -/
def IH (O : Oracle) (env : Env) (p : Params) (cs : CidState) (T1 T2 : Data.Trace) (fuel : Nat) : Prop :=
  ∀ (up : Bool) (i : Instr) (c : Ctx) (s : State), FragA i = true → Inv p cs T1 T2 c s →
    NoAbort (eval O p fuel up i s).1 → Sim p cs T1 T2 (exec env fuel i c) (eval O p fuel up i s)

/-- `seq` and `xor` run their right operand after one kind of result of the left one (`go`) and return every
other result as it is.  A left run that is not the executor's counterpart of `go` stays simulated, whichever
way the reference side went: if it went on, the run has stalled and the reference side is merely ahead. -/
theorem simPost_ahead {go o : Outcome} {s : State} {e : Outcome × State} {bs : List String} {r : Res ExecErr Unit} {c' : Ctx}
    (h : SimPost p cs T1 T2 r c' (o, s)) (hgo : o = go → Grows bs s e.2) (hstay : o ≠ go → e = (o, s))
    (hr : o = go → (r = .ok () → c'.subgraphComplete = true → False) ∧ ∀ ce, r ≠ .error (.catchable ce)) :
    SimPost p cs T1 T2 r c' e := by
  by_cases ho : o = go
  · exact ⟨h.inv.mono (hgo ho), fun h1 h2 => ((hr ho).1 h1 h2).elim, fun ce hce => absurd hce ((hr ho).2 ce)⟩
  · rw [hstay ho]; exact h

theorem seq_sim (ih : IH O env p cs T1 T2 fuel) (up : Bool) (l r : Instr) (c : Ctx) (s : State)
    (hl : FragA l = true) (hr : FragA r = true) (hinv : Inv p cs T1 T2 c s)
    (hna : NoAbort (eval O p (fuel + 1) up (.seq l r) s).1) :
    Sim p cs T1 T2 (execInner env fuel (.seq l r) c) (eval O p (fuel + 1) up (.seq l r) s) := by
  have h1 := ih false l { c with subgraphComplete := true } s hl (hinv.congr (sameCore_flag c true))
  have g1 := eval_ext O p fuel false l s hl hinv.flatS
  simp only [execInner, bind_apply, modifyCtx_apply, readCtx_apply]
  rw [eval_seq] at hna ⊢
  generalize eval O p fuel false l s = e1 at h1 g1 hna ⊢
  generalize exec env fuel l _ = x1 at h1 ⊢
  obtain ⟨o1, s1⟩ := e1
  obtain ⟨r1, c1⟩ := x1
  have hp1 : SimPost p cs T1 T2 r1 c1 (o1, s1) := h1 (by rintro w rfl; exact hna w rfl)
  have hgo : o1 = .done → Grows (binders r) s1 (match (o1, s1) with | (.done, s1) => eval O p fuel false r s1 | r1 => r1).2 := by
    rintro rfl; exact eval_ext O p fuel false r s1 hr g1.flat
  have hstay : o1 ≠ .done → (match (o1, s1) with | (.done, s1) => eval O p fuel false r s1 | r1 => r1) = (o1, s1) := by
    cases o1 <;> first | (intro h; exact absurd rfl h) | (intro; rfl)
  rcases r1 with ⟨⟩ | e | site <;> simp only []
  · by_cases hc : c1.subgraphComplete = true
    · obtain rfl : o1 = .done := hp1.done rfl hc
      simp only [hc, if_true]
      exact ih false r c1 s1 hr hp1.inv hna
    · simp only [hc, Bool.false_eq_true, if_false]
      exact simPost_ahead hp1 hgo hstay fun _ => ⟨fun _ h => hc h, fun _ => (nomatch ·)⟩
  · exact simPost_ahead hp1 hgo hstay fun ho => ⟨(nomatch ·), fun ce h => by subst ho; cases hp1.failed ce h⟩
  · exact simPost_ahead hp1 hgo hstay fun _ => ⟨(nomatch ·), fun _ => (nomatch ·)⟩

theorem xor_sim (ih : IH O env p cs T1 T2 fuel) (up : Bool) (l r : Instr) (c : Ctx) (s : State)
    (hl : FragA l = true) (hr : FragA r = true) (hinv : Inv p cs T1 T2 c s)
    (hna : NoAbort (eval O p (fuel + 1) up (.xor l r) s).1) :
    Sim p cs T1 T2 (execInner env fuel (.xor l r) c) (eval O p (fuel + 1) up (.xor l r) s) := by
  have h1 := ih false l { c with subgraphComplete := true } s hl (hinv.congr (sameCore_flag c true))
  have g1 := eval_ext O p fuel false l s hl hinv.flatS
  simp only [execInner, bind_apply, modifyCtx_apply, tryM_apply]
  rw [eval_xor] at hna ⊢
  generalize eval O p fuel false l s = e1 at h1 g1 hna ⊢
  generalize exec env fuel l _ = x1 at h1 ⊢
  obtain ⟨o1, s1⟩ := e1
  obtain ⟨r1, c1⟩ := x1
  have hp1 : SimPost p cs T1 T2 r1 c1 (o1, s1) := h1 (by rintro w rfl; exact hna w rfl)
  have hgo : o1 = .failed → Grows (binders r) s1 (match (o1, s1) with | (.failed, s1) => eval O p fuel false r s1 | r1 => r1).2 := by
    rintro rfl; exact eval_ext O p fuel false r s1 hr g1.flat
  have hstay : o1 ≠ .failed → (match (o1, s1) with | (.failed, s1) => eval O p fuel false r s1 | r1 => r1) = (o1, s1) := by
    cases o1 <;> first | (intro h; exact absurd rfl h) | (intro; rfl)
  rcases r1 with ⟨⟩ | (ce | ue | w) | site <;> simp only [reraise_apply]
  · exact simPost_ahead hp1 hgo hstay fun ho => ⟨fun hr hc => (by subst ho; cases hp1.done hr hc), fun _ => (nomatch ·)⟩
  · -- the left branch failed catchably: so did the reference side, both go right
    obtain rfl : o1 = .failed := hp1.failed ce rfl
    have h2 := ih false r (xorEnterRight ce c1) s1 hr (hp1.inv.congr (sameCore_xorEnterRight ce c1)) hna
    simp only [bind_apply, modifyCtx_apply, tryM_apply, reraise_apply]
    generalize exec env fuel r _ = x2 at h2 ⊢
    obtain ⟨hsame, hflag⟩ := sameCore_xorLeaveRight x2.1.isOk x2.2
    exact ⟨h2.inv.congr hsame, fun hr hc => h2.done hr (hflag ▸ hc), h2.failed⟩
  · exact simPost_ahead hp1 hgo hstay fun _ => ⟨(nomatch ·), fun _ => (nomatch ·)⟩
  · exact simPost_ahead hp1 hgo hstay fun _ => ⟨(nomatch ·), fun _ => (nomatch ·)⟩
  · exact simPost_ahead hp1 hgo hstay fun _ => ⟨(nomatch ·), fun _ => (nomatch ·)⟩

/-- what one branch of a `par` establishes: the pair it returns is (error of a failed branch, completeness) -/
structure SubPost (p : Params) (cs : CidState) (T1 T2 : Data.Trace) (e : Outcome × State)
    (x : Res ExecErr (Option ExecErr × Bool) × Ctx) : Prop where
  inv : Inv p cs T1 T2 x.2 e.2
  done : ∀ oe, x.1 = .ok (oe, true) → e.1 = .done
  failed : ∀ err b, x.1 = .ok (some err, b) → e.1 = .failed
  stop : ∀ ce, x.1 ≠ .error (.catchable ce)

namespace SubPost
variable {e : Outcome × State} {c' : Ctx}

theorem panic {site : String} (hi : Inv p cs T1 T2 c' e.2) : SubPost p cs T1 T2 e (.panic site, c') :=
  ⟨hi, fun _ => (nomatch ·), fun _ _ => (nomatch ·), fun _ => (nomatch ·)⟩

theorem error {er : ExecErr} (hi : Inv p cs T1 T2 c' e.2) (h : ∀ ce, er ≠ .catchable ce) :
    SubPost p cs T1 T2 e (.error er, c') :=
  ⟨hi, fun _ => (nomatch ·), fun _ _ => (nomatch ·), fun ce h' => h ce (by cases h'; rfl)⟩

end SubPost

theorem execSubgraph_sim (ih : IH O env p cs T1 T2 fuel) (par sub : Instr) (t : Trace.SubgraphType) (c : Ctx) (s : State)
    (hsub : FragA sub = true) (hinv : Inv p cs T1 T2 c s) (hna : NoAbort (eval O p fuel true sub s).1) :
    SubPost p cs T1 T2 (eval O p fuel true sub s) (execSubgraph env fuel par sub t c) := by
  have hp1 := ih true sub _ s hsub (hinv.congr (sameCore_flag c (!(isNext sub)))) hna
  simp only [execSubgraph, bind_apply, modifyCtx_apply, tryM_apply]
  generalize exec env fuel sub _ = x1 at hp1 ⊢
  obtain ⟨⟨⟩ | (ce | ue | w) | site, c1⟩ := x1 <;>
    simp only [makeSubgraphIncomplete, liftTH'_apply, bind_apply, modifyCtx_apply, readCtx_apply, pure_apply, throwE_apply, panicM_apply]
  · rcases hm : c1.th.meetParSubgraphEnd t with th' | e | site <;> simp only []
    · refine ⟨hp1.inv.congr (sameCore_th _ _ (meetParSubgraphEnd_same hm)), fun oe h => ?_, fun _ _ => (nomatch ·),
        fun _ => (nomatch ·)⟩
      simp only [Res.ok.injEq, Prod.mk.injEq] at h
      exact hp1.done rfl h.2
    · exact .error hp1.inv fun _ => (nomatch ·)
    · exact .panic hp1.inv
  · have hinv1 := hp1.inv.congr (sameCore_flag c1 false)
    rcases hm : c1.th.meetParSubgraphEnd t with th' | e | site <;> simp only []
    · exact ⟨hinv1.congr (sameCore_th _ _ (meetParSubgraphEnd_same hm)), fun _ => (nomatch ·),
        fun _ _ _ => hp1.failed ce rfl, fun _ => (nomatch ·)⟩
    · exact .error hinv1 fun _ => (nomatch ·)
    · exact .panic hinv1
  · exact .error (hp1.inv.congr (sameCore_flag c1 false)) fun _ => (nomatch ·)
  · exact .error (hp1.inv.congr (sameCore_flag c1 false)) fun _ => (nomatch ·)
  · exact .panic hp1.inv

theorem parOutcome_done {o1 o2 : Outcome} (h1 : NoAbort o1) (h2 : NoAbort o2) (h : o1 = .done ∨ o2 = .done) :
    parOutcome o1 o2 = .done := by
  rcases h with rfl | rfl
  · cases o2 <;> first | rfl | exact absurd rfl (h2 _)
  · cases o1 <;> first | rfl | exact absurd rfl (h1 _)

theorem par_sim (ih : IH O env p cs T1 T2 fuel) (up : Bool) (l r : Instr) (c : Ctx) (s : State)
    (hl : FragA l = true) (hr : FragA r = true) (hinv : Inv p cs T1 T2 c s)
    (hna : NoAbort (eval O p (fuel + 1) up (.par l r) s).1) :
    Sim p cs T1 T2 (execInner env fuel (.par l r) c) (eval O p (fuel + 1) up (.par l r) s) := by
  obtain ⟨w, -, he⟩ | ⟨w, -, he⟩ | ⟨hna1, hna2, he⟩ := eval_par_cases O p fuel up l r s rfl rfl
  · rw [he] at hna; exact absurd rfl (hna w)
  · rw [he] at hna; exact absurd rfl (hna w)
  rw [he]
  have g1 := eval_ext O p fuel true l s hl hinv.flatS
  have g2 := eval_ext O p fuel true r _ hr g1.flat
  simp only [execInner, bind_apply, liftTH'_apply]
  rcases hm : c.th.meetParStart with th' | e | site <;> simp only []
  · have h1 := execSubgraph_sim (env := env) ih (.par l r) l .left _ s hl
      (hinv.congr (sameCore_th _ _ (meetParStart_same hm))) hna1
    generalize execSubgraph env fuel (.par l r) l .left _ = x1 at h1 ⊢
    obtain ⟨⟨le, lb⟩ | e | site, c1⟩ := x1 <;> simp only []
    · have h2 := execSubgraph_sim (env := env) ih (.par l r) r .right c1 _ hr h1.inv hna2
      generalize execSubgraph env fuel (.par l r) r .right c1 = x2 at h2 ⊢
      obtain ⟨⟨re, rb⟩ | e | site, c2⟩ := x2 <;> simp only [modifyCtx_apply]
      · -- a complete branch is done on the reference side
        have hdone : (lb || rb) = true → parOutcome (eval O p fuel true l s).1
            (eval O p fuel true r (eval O p fuel true l s).2).1 = .done := by
          intro hb
          refine parOutcome_done hna1 hna2 ?_
          cases lb
          · exact .inr (h2.done re (by rw [← (show rb = true from hb)]))
          · exact .inl (h1.done le rfl)
        rcases le with _ | e1 <;> rcases re with _ | e2 <;> simp only [throwE_apply]
        case some.some =>
          refine .error (h2.inv.congr (sameCore_flag c2 _)) fun ce _ => ?_
          rw [h1.failed e1 lb rfl, h2.failed e2 rb rfl]; rfl
        -- unless both branches failed the `par` succeeds
        all_goals exact ⟨h2.inv.congr (.of_eq (.refl _)), fun _ hc => hdone hc, fun _ => (nomatch ·)⟩
      · exact .error h2.inv fun ce h => (h2.stop ce (h ▸ rfl)).elim
      · exact .panic h2.inv
    · exact .error (h1.inv.mono g2) fun ce h => (h1.stop ce (h ▸ rfl)).elim
    · exact .panic (h1.inv.mono g2)
  · exact .error (hinv.mono (g1.trans g2)) fun _ => (nomatch ·)
  · exact .panic (hinv.mono (g1.trans g2))

theorem execInner_cond (env : Env) (fuel : Nat) (want : Bool) (a b : Value) (body : Instr) (c : Ctx) :
    execInner env fuel (condInstr want a b body) c =
      (match joinable (readER fun c => areMatchableEq c a b) c with
      | (.ok none, c1) => (.ok (), c1)
      | (.ok (some v), c1) => if v = want then exec env fuel body c1 else
          (.error (.catchable (if want then .matchValuesNotEqual else .mismatchValuesEqual)), c1)
      | (.error e, c1) => (.error e, c1)
      | (.panic st, c1) => (.panic st, c1)) := by
  cases want <;> simp only [condInstr, cond, execInner, bind_apply] <;>
    (rcases joinable (readER fun c => areMatchableEq c a b) c with ⟨(_ | v) | _ | _, c1⟩ <;> first | rfl | (cases v <;> rfl))

theorem cond_sim (ih : IH O env p cs T1 T2 fuel) (up want : Bool) (a b : Value) (body : Instr) (c : Ctx) (s : State)
    (ha : FragV a = true) (hb : FragV b = true) (hbody : FragA body = true) (hinv : Inv p cs T1 T2 c s)
    (hna : NoAbort (eval O p (fuel + 1) up (condInstr want a b body) s).1) :
    Sim p cs T1 T2 (execInner env fuel (condInstr want a b body) c) (eval O p (fuel + 1) up (condInstr want a b body) s) := by
  obtain ⟨ga, gb, hga, hgb, hag⟩ := areMatchableEq_agrees hinv.pre a b ha hb
  -- wherever the reference side is, it is ahead of `s`
  have hmono := hinv.mono (eval_ext O p (fuel + 1) up (condInstr want a b body) s
    (by cases want <;> simp [condInstr, FragA, ha, hb, hbody]) hinv.flatS)
  rw [eval_cond O p fuel up want body hga hgb] at hna hmono ⊢
  rw [execInner_cond]
  simp only [joinable_apply, readER_apply]
  obtain ⟨v, hme, hg⟩ | ⟨ce, hme, hj⟩ | ⟨ce, hme, hj, hg⟩ := hag.cases <;> rw [hme] <;> simp only []
  · rw [hg] at hna ⊢
    by_cases hv : v = want <;> simp only [id, hv, if_true, if_false] at hna ⊢
    · exact ih false body c s hbody hinv hna
    · exact .error hinv fun _ _ => rfl
  · simp only [ExecErr.isJoinable, hj, if_true]
    exact .incomplete (hmono.congr (sameCore_flag c false)) rfl
  · simp only [ExecErr.isJoinable, hj, Bool.false_eq_true, if_false]
    rw [hg]; exact .error hinv fun _ _ => rfl

theorem ap_sim (up : Bool) (arg : Value) (name : String) (c : Ctx) (s : State)
    (ha : FragV arg = true) (hinv : Inv p cs T1 T2 c s)
    (hna : NoAbort (eval O p (fuel + 1) up (.ap arg (.scalar name)) s).1) :
    Sim p cs T1 T2 (execInner env fuel (.ap arg (.scalar name)) c) (eval O p (fuel + 1) up (.ap arg (.scalar name)) s) := by
  obtain ⟨g, hg, hag⟩ := applyToArg_agrees hinv.pre arg ha
  -- whatever the reference side does, it extends `s`
  have hmono := hinv.mono (eval_ext O p (fuel + 1) up (.ap arg (.scalar name)) s (by simp [FragA, ha]) hinv.flatS)
  rw [eval_ap] at hna hmono ⊢
  simp only [hg] at hna hmono ⊢
  simp only [execInner, execAp, bind_apply, joinable_apply, readER_apply]
  obtain ⟨va, hat, rfl⟩ | ⟨ce, hat, hj⟩ | ⟨ce, hat, hj, rfl⟩ := hag.cases <;> rw [hat] <;> simp only []
  · have hcan : s.canBind name = true := by
      cases hc : s.canBind name with
      | true => rfl
      | false => simp only [hc, Bool.false_eq_true, if_false] at hna; exact absurd rfl (hna _)
    simp only [hcan, if_true, setScalar, modifyER_apply, withScalars]
    have hinv' := hinv.mono (grows_bind hinv.flatS name va.result hcan)
    rcases hss : c.scalars.setScalarValue name va with sc | e | st <;> simp only [Res.bind]
    · exact ⟨hinv'.setScalar hss (by rw [lookup_bind hinv.flatS, if_pos rfl]), fun _ _ => rfl, fun _ => (nomatch ·)⟩
    · exact .error hinv' fun ce h => absurd (h ▸ hss) (setScalarValue_noCatch _ _ _ ce)
    · exact .panic hinv'
  · simp only [ExecErr.isJoinable, hj, if_true, pure_apply]
    exact .incomplete (hmono.congr (sameCore_flag c false)) rfl
  · simp only [ExecErr.isJoinable, hj, Bool.false_eq_true, if_false]
    exact .error hinv fun _ _ => rfl

theorem onError_sim (m : M Unit) (i : Instr) (c : Ctx) (e : Outcome × State) (hm : Sim p cs T1 T2 (m c) e) :
    Sim p cs T1 T2 (onError m (fun e c => c.setErrorsOf e i) c) e := by
  rw [onError_apply]
  generalize m c = x at hm ⊢
  obtain ⟨u | er | st, c1⟩ := x
  · exact hm
  · exact ⟨hm.inv.congr (sameCore_setErrorsOf _ _ _), (nomatch ·), hm.failed⟩
  · exact hm

/-- the simulation; the invariant it preserves says in particular (`Inv.reqs`) that every request the executor issues is a
call of the reference evaluator -/
theorem exec_sim (hgood : ∀ st, st ∈ T1 ∨ st ∈ T2 → GoodState O env cs st) : ∀ fuel, IH O env p cs T1 T2 fuel
  | 0 => fun up i c s hi hinv hna => absurd rfl (hna "out of fuel")
  | fuel + 1 => by
    have ih : IH O env p cs T1 T2 fuel := exec_sim hgood fuel
    intro up i c s hi hinv hna
    -- every instruction but `call` runs under the `execute!` wrapper
    cases i <;> first | (cases hi; done) | (simp only [exec]; try refine onError_sim _ _ c _ ?_)
    case call peer svc func args out => exact execCall_sim hgood fuel up peer svc func args out _ c s hi hinv hna
    case seq l r =>
      simp only [FragA, Bool.and_eq_true] at hi
      exact seq_sim ih up l r c s hi.1 hi.2 hinv hna
    case xor l r =>
      simp only [FragA, Bool.and_eq_true] at hi
      exact xor_sim ih up l r c s hi.1 hi.2 hinv hna
    case par l r =>
      simp only [FragA, Bool.and_eq_true] at hi
      exact par_sim ih up l r c s hi.1 hi.2 hinv hna
    case match_ a b body =>
      simp only [FragA, Bool.and_eq_true] at hi
      exact cond_sim ih up true a b body c s hi.1.1 hi.1.2 hi.2 hinv hna
    case mismatch a b body =>
      simp only [FragA, Bool.and_eq_true] at hi
      exact cond_sim ih up false a b body c s hi.1.1 hi.1.2 hi.2 hinv hna
    case ap arg out =>
      cases out with
      | scalar name =>
        simp only [FragA, Bool.and_eq_true] at hi
        exact ap_sim up arg name c s hi.1 hinv hna
      | none | stream _ _ => simp [FragA] at hi
    case fail arg =>
      simp only [execInner]
      obtain ⟨hsame, hnok⟩ := execFail_run arg c
      have he : eval O p (fuel + 1) up (.fail arg) s = (.failed, s) := by
        cases arg <;> first | rfl | (simp [FragA] at hi)
      rw [he]
      exact ⟨hinv.congr hsame, fun h => absurd h hnok, fun _ _ => rfl⟩
    case null => simp only [execInner]; exact ⟨hinv, fun _ _ => rfl, fun _ => (nomatch ·)⟩
    case never => simp only [execInner]; exact .incomplete (hinv.congr (sameCore_flag c false)) rfl

end AquaProps.C16
