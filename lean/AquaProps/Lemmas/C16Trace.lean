import AquaProps.Lemmas.MergeLattice
/-!
# C16 lemmas, part 3: the trace handler never edits the input traces

The operations the flat fragment uses (`meetCallStart`, `meetCallEnd`, `meetParStart`,
`meetParSubgraphEnd`) only move the sliders; the previous and the current trace stay the lists they
were.  A call state handed out by `meetCallStart` is a call state of one of the two traces.
-/
namespace AquaProps.C16
open Aqua Aqua.Data Aqua.Trace

def KeeperSame (k k' : DataKeeper) : Prop := k'.prev.trace = k.prev.trace ∧ k'.cur.trace = k.cur.trace

namespace KeeperSame
theorem refl (k : DataKeeper) : KeeperSame k k := ⟨rfl, rfl⟩
theorem trans {a b c : DataKeeper} (h1 : KeeperSame a b) (h2 : KeeperSame b c) : KeeperSame a c :=
  ⟨h2.1.trans h1.1, h2.2.trans h1.2⟩
end KeeperSame

theorem nextState_trace (s : TraceSlider) : s.nextState.2.trace = s.trace := by
  unfold TraceSlider.nextState
  split
  · rfl
  · split <;> rfl

theorem nextState_mem {s : TraceSlider} {st : ExecutedState} (h : s.nextState.1 = some st) : st ∈ s.trace := by
  unfold TraceSlider.nextState at h
  split at h
  · cases h
  · split at h <;> cases h
    exact List.mem_of_getElem? ‹_›

theorem setPositionAndLen_trace {s s' : TraceSlider} {p l : Nat} (h : s.setPositionAndLen p l = .ok s') : s'.trace = s.trace := by
  simp only [TraceSlider.setPositionAndLen] at h
  split at h <;> cases h
  rfl

theorem setSubtraceLen_trace {s s' : TraceSlider} {l : Nat} (h : s.setSubtraceLen l = .ok s') : s'.trace = s.trace := by
  simp only [TraceSlider.setSubtraceLen] at h
  split at h <;> cases h
  rfl

theorem preparePositionsMapping_same {scheme : PreparationScheme} {k k' : DataKeeper}
    (h : preparePositionsMapping scheme k = .ok k') : KeeperSame k k' := by
  cases scheme <;> simp only [preparePositionsMapping, Res.bind_eq_ok, Res.pure_eq_ok] at h
  · obtain ⟨_, _, rfl⟩ := h; exact ⟨rfl, rfl⟩
  · obtain ⟨_, _, rfl⟩ := h; exact ⟨rfl, rfl⟩
  · obtain ⟨_, _, _, _, rfl⟩ := h; exact ⟨rfl, rfl⟩

theorem prepareCallResult_spec {r : CallResult} {scheme : PreparationScheme} {k k' : DataKeeper} {m : MergerCallResult}
    (h : prepareCallResult r scheme k = .ok (m, k')) : KeeperSame k k' ∧ ∃ pos src, m = .met ⟨r, pos, src⟩ := by
  simp only [prepareCallResult, Res.bind_eq_ok, Res.pure_eq_ok, Prod.mk.injEq] at h
  obtain ⟨k1, hk1, rfl, rfl⟩ := h
  exact ⟨preparePositionsMapping_same hk1, _, _, rfl⟩

theorem mergeCallResults_eq {p c m : CallResult} {scheme : PreparationScheme} (h : mergeCallResults p c = .ok (m, scheme)) :
    m = p ∨ m = c := by
  obtain ⟨m', s', h', hm, -⟩ | ⟨e, h', -⟩ := Merge.mergeCall_cases p c <;> rw [h'] at h <;> cases h
  exact hm

theorem tryMergeNextStateAsCall_spec {k k' : DataKeeper} {m : MergerCallResult}
    (h : tryMergeNextStateAsCall k = .ok (m, k')) :
    KeeperSame k k' ∧ (m = .notMet ∨ ∃ r, (∃ pos src, m = .met ⟨r, pos, src⟩) ∧ (.call r ∈ k.prev.trace ∨ .call r ∈ k.cur.trace)) := by
  unfold tryMergeNextStateAsCall nextStates at h
  have hs : KeeperSame k { k with prev := k.prev.nextState.2, cur := k.cur.nextState.2 } :=
    ⟨nextState_trace k.prev, nextState_trace k.cur⟩
  dsimp only at h
  split at h
  · rename_i hp hc
    split at h
    · rename_i mr scheme hm
      obtain ⟨h1, h2⟩ := prepareCallResult_spec h
      refine ⟨hs.trans h1, .inr ⟨mr, h2, ?_⟩⟩
      rcases mergeCallResults_eq hm with rfl | rfl
      · exact .inl (nextState_mem hp)
      · exact .inr (nextState_mem hc)
    · cases h
    · cases h
  · rename_i hp hc
    obtain ⟨h1, h2⟩ := prepareCallResult_spec h
    exact ⟨hs.trans h1, .inr ⟨_, h2, .inr (nextState_mem hc)⟩⟩
  · rename_i hp hc
    obtain ⟨h1, h2⟩ := prepareCallResult_spec h
    exact ⟨hs.trans h1, .inr ⟨_, h2, .inl (nextState_mem hp)⟩⟩
  · cases h; exact ⟨hs, .inl rfl⟩
  · cases h

theorem tryMergeNextStateAsPar_same {k k' : DataKeeper} {pp cp : ParResult} (h : tryMergeNextStateAsPar k = .ok (pp, cp, k')) :
    KeeperSame k k' := by
  unfold tryMergeNextStateAsPar nextStates at h
  dsimp only at h
  split at h <;> cases h
  all_goals exact ⟨nextState_trace k.prev, nextState_trace k.cur⟩

theorem updateCtxStates_same {p : CtxStatesPair} {k k' : DataKeeper} (h : updateCtxStates p k = .ok k') : KeeperSame k k' := by
  -- a failed `set_position_and_len` leaves the slider as it was
  have upd : ∀ {s s' : TraceSlider} {c : CtxState}, (match s.setPositionAndLen c.pos c.subtraceLen with
      | .ok s' => .ok s' | .error _ => .ok s | .panic site => .panic site : TR TraceSlider) = .ok s' → s'.trace = s.trace := by
    intro s s' c h
    split at h <;> cases h
    · exact setPositionAndLen_trace ‹_›
    · rfl
  simp only [updateCtxStates, Res.bind_eq_ok, Res.pure_eq_ok] at h
  obtain ⟨ps, hps, cs, hcs, rfl⟩ := h
  exact ⟨upd hps, upd hcs⟩

theorem parPrepareSliders_same {f : ParFSM} {t : SubgraphType} {k k' : DataKeeper} (h : parPrepareSliders f t k = .ok k') :
    KeeperSame k k' := by
  simp only [parPrepareSliders, liftKeeperF, Res.bind_eq_ok, Res.pure_eq_ok, Res.mapErr_eq_ok] at h
  obtain ⟨ps, hps, cs, hcs, rfl⟩ := h
  exact ⟨setSubtraceLen_trace hps, setSubtraceLen_trace hcs⟩

theorem fromLeftStarted_same {pp cp : ParResult} {k k' : DataKeeper} {f : ParFSM}
    (h : ParFSM.fromLeftStarted pp cp k = .ok (f, k')) : KeeperSame k k' := by
  simp only [ParFSM.fromLeftStarted, Res.bind_eq_ok, Res.pure_eq_ok, Prod.mk.injEq] at h
  obtain ⟨_, _, _, _, _, _, _, _, k2, hk2, _, rfl⟩ := h
  -- the sliders are prepared on the keeper with the `par` state pushed to the result trace
  have := parPrepareSliders_same hk2
  exact this

theorem leftCompleted_same {f f' : ParFSM} {k k' : DataKeeper} (h : f.leftCompleted k = .ok (f', k')) : KeeperSame k k' := by
  simp only [ParFSM.leftCompleted, Res.bind_eq_ok] at h
  obtain ⟨k1, hk1, h⟩ := h
  have h1 := updateCtxStates_same hk1
  split at h
  · cases h; exact h1.trans (parPrepareSliders_same ‹_›)
  · split at h <;> cases h
    · exact h1.trans ⟨setSubtraceLen_trace ‹_›, rfl⟩
    · exact h1
  · cases h

def HandlerSame (h h' : TraceHandler) : Prop := KeeperSame h.keeper h'.keeper

namespace HandlerSame
theorem refl (h : TraceHandler) : HandlerSame h h := KeeperSame.refl _
theorem trans {a b c : TraceHandler} (h1 : HandlerSame a b) (h2 : HandlerSame b c) : HandlerSame a c :=
  KeeperSame.trans h1 h2
end HandlerSame

theorem meetCallStart_spec {h h' : TraceHandler} {m : MergerCallResult} (hm : h.meetCallStart = .ok (m, h')) :
    HandlerSame h h' ∧ (m = .notMet ∨ ∃ r, (∃ pos src, m = .met ⟨r, pos, src⟩) ∧
      (.call r ∈ h.keeper.prev.trace ∨ .call r ∈ h.keeper.cur.trace)) := by
  simp only [TraceHandler.meetCallStart, Res.bind_eq_ok, Res.pure_eq_ok, Prod.mk.injEq] at hm
  obtain ⟨⟨r, k⟩, hx, rfl, rfl⟩ := hm
  exact tryMergeNextStateAsCall_spec hx

theorem meetCallEnd_same (h : TraceHandler) (c : CallResult) : HandlerSame h (h.meetCallEnd c) := ⟨rfl, rfl⟩

theorem meetParStart_same {h h' : TraceHandler} (hm : h.meetParStart = .ok h') : HandlerSame h h' := by
  simp only [TraceHandler.meetParStart, Res.bind_eq_ok, Res.pure_eq_ok] at hm
  obtain ⟨⟨pp, cp, k⟩, hx, ⟨f, k2⟩, hy, rfl⟩ := hm
  exact (tryMergeNextStateAsPar_same hx).trans (fromLeftStarted_same hy)

theorem meetParSubgraphEnd_same {h h' : TraceHandler} {t : SubgraphType} (hm : h.meetParSubgraphEnd t = .ok h') :
    HandlerSame h h' := by
  unfold TraceHandler.meetParSubgraphEnd at hm
  split at hm
  · cases hm
  · cases t <;> simp only [Res.bind_eq_ok, Res.pure_eq_ok] at hm
    · obtain ⟨⟨f', k⟩, hx, rfl⟩ := hm
      exact leftCompleted_same hx
    · obtain ⟨k, hk, rfl⟩ := hm
      -- `rightCompleted` writes the result trace, then restores the sliders
      unfold ParFSM.rightCompleted at hk
      have := updateCtxStates_same hk
      exact this

end AquaProps.C16
