import Aqua.Air.Parser
/-!
The checked `str` slices of the lexer model (`Lex.sliceBytes`: `tokenize_until`, `parse_error`,
`try_to_variable_and_lambda`) never fail: every one is taken between two character boundaries.
Hence no text makes the model of `parse` panic (`AquaProps.C23.C23_totality_full`).
-/
namespace Aqua.Air
open Aqua.Gen

namespace Lex

theorem utf8Len_foldl (cs : List Char) (n : Nat) : cs.foldl (fun n c => n + c.utf8Size) n = n + utf8Len cs := by
  induction cs generalizing n with
  | nil => simp [utf8Len]
  | cons c cs ih =>
    simp only [List.foldl_cons, utf8Len]
    rw [ih, ih (0 + c.utf8Size)]; omega

@[simp] theorem utf8Len_nil : utf8Len [] = 0 := rfl
@[simp] theorem utf8Len_cons (c : Char) (cs : List Char) : utf8Len (c :: cs) = c.utf8Size + utf8Len cs := by
  simp only [utf8Len, List.foldl_cons]; rw [utf8Len_foldl]; simp [utf8Len]
@[simp] theorem utf8Len_append (a b : List Char) : utf8Len (a ++ b) = utf8Len a + utf8Len b := by
  induction a with
  | nil => simp
  | cons c a ih => simp [ih]; omega

theorem utf8ByteSize_eq (s : String) : s.utf8ByteSize = utf8Len s.toList := by
  have h : ∀ l : List Char, (String.ofList l).utf8ByteSize = utf8Len l := by
    intro l; induction l <;> simp [*]
  rw [← h, String.ofList_toList]

theorem splitAtByte_cons (c : Char) (cs : List Char) (n : Nat) :
    splitAtByte (c :: cs) (c.utf8Size + n) = (splitAtByte cs n).map fun (l, r) => (c :: l, r) := by
  cases h : c.utf8Size + n with
  | zero => have := c.utf8Size_pos; omega
  | succ m => simp [splitAtByte, show c.utf8Size ≤ m + 1 by omega, show m + 1 - c.utf8Size = n by omega]

theorem splitAtByte_append (a b : List Char) : splitAtByte (a ++ b) (utf8Len a) = some (a, b) := by
  induction a with
  | nil => cases b <;> rfl
  | cons c a ih => simp [splitAtByte_cons, ih]

theorem sliceBytes_append (pre mid post : List Char) :
    sliceBytes (pre ++ mid ++ post) (utf8Len pre) (utf8Len pre + utf8Len mid) = some mid := by
  unfold sliceBytes
  simp only [Nat.le_add_right, ↓reduceIte, List.append_assoc, splitAtByte_append]
  simp [splitAtByte_append]

theorem charIndices_append (a b : List Char) (k : Nat) :
    charIndices (a ++ b) k = charIndices a k ++ charIndices b (k + utf8Len a) := by
  induction a generalizing k with
  | nil => simp [charIndices]
  | cons c a ih =>
    simp only [List.cons_append, charIndices, ih, utf8Len_cons]
    rw [Nat.add_assoc]

@[simp] theorem charIndices_map_snd (cs : List Char) (k : Nat) : (charIndices cs k).map (·.2) = cs := by
  induction cs generalizing k with
  | nil => rfl
  | cons c cs ih => simp [charIndices, ih]

theorem charIndices_length (cs : List Char) (k : Nat) : (charIndices cs k).length = cs.length := by
  induction cs generalizing k with
  | nil => rfl
  | cons c cs ih => simp [charIndices, ih]

theorem charIndices_drop (cs : List Char) (k n : Nat) :
    (charIndices cs k).drop n = charIndices (cs.drop n) (k + utf8Len (cs.take n)) := by
  induction n generalizing cs k with
  | zero => simp
  | succ n ih =>
    cases cs with
    | nil => simp [charIndices]
    | cons c cs =>
      simp only [charIndices, List.drop_succ_cons, ih, List.take_succ_cons, utf8Len_cons]
      rw [Nat.add_assoc]

theorem mem_takeWhile_cond {α} {p : α → Bool} {l : List α} {x : α} (h : x ∈ l.takeWhile p) : p x = true := by
  have := List.all_takeWhile (l := l) (p := p)
  exact List.all_eq_true.mp this x h

theorem mem_of_mem_takeWhile {α} {p : α → Bool} {l : List α} {x : α} (h : x ∈ l.takeWhile p) : x ∈ l :=
  (List.takeWhile_sublist p).subset h

theorem mem_of_mem_dropWhile {α} {p : α → Bool} {l : List α} {x : α} (h : x ∈ l.dropWhile p) : x ∈ l :=
  (List.dropWhile_sublist p).subset h

end Lex

namespace LambdaParser

theorem tokenizeUntilLoop_spec (cond : Char → Bool) (cs : List Char) (k : Nat) :
    tokenizeUntilLoop cond k (Lex.charIndices cs k) =
      (k + Lex.utf8Len (cs.takeWhile cond), Lex.charIndices (cs.dropWhile cond) (k + Lex.utf8Len (cs.takeWhile cond))) := by
  induction cs generalizing k with
  | nil => simp [Lex.charIndices, tokenizeUntilLoop]
  | cons c cs ih =>
    simp only [Lex.charIndices, tokenizeUntilLoop]
    by_cases hc : cond c
    · simp only [hc, Bool.not_true, Bool.false_eq_true, ↓reduceIte, List.takeWhile_cons_of_pos, List.dropWhile_cons_of_pos,
        Lex.utf8Len_cons]
      rw [ih (k + c.utf8Size), Nat.add_assoc]
    · simp [hc, Lex.charIndices]

theorem tokenizeUntil_ok (cond : Char → Bool) (pre : List Char) (ch : Char) (cs : List Char) :
    tokenizeUntil (pre ++ ch :: cs) (Lex.utf8Len pre) cond (Lex.charIndices cs (Lex.utf8Len pre + ch.utf8Size)) =
      (some (ch :: cs.takeWhile cond),
       Lex.charIndices (cs.dropWhile cond) (Lex.utf8Len pre + ch.utf8Size + Lex.utf8Len (cs.takeWhile cond))) := by
  have htail : Lex.sliceBytes (pre ++ ch :: cs) (Lex.utf8Len pre) (Lex.utf8Len (pre ++ ch :: cs)) = some (ch :: cs) := by
    simpa using Lex.sliceBytes_append pre (ch :: cs) []
  have hmid : Lex.sliceBytes (pre ++ ch :: cs) (Lex.utf8Len pre)
      (Lex.utf8Len pre + ch.utf8Size + Lex.utf8Len (cs.takeWhile cond)) = some (ch :: cs.takeWhile cond) := by
    simpa [Nat.add_assoc] using Lex.sliceBytes_append pre (ch :: cs.takeWhile cond) (cs.dropWhile cond)
  simp only [tokenizeUntil, htail, tokenizeUntilLoop_spec, hmid]

def EndsWell (r : List LToken × LexEnd) : Prop := ∀ site, r.2 ≠ .panic site

theorem lexRest_endsWell (pre : List Char) (fuel : Nat) (cs : List Char) :
    EndsWell (lexRest (pre ++ cs) fuel (Lex.charIndices cs (Lex.utf8Len pre))) := by
  induction fuel generalizing pre cs with
  | zero => exact fun _ => nofun
  | succ fuel ih =>
    cases cs with
    | nil => exact fun _ => nofun
    | cons ch rest =>
      have hnext : EndsWell (lexRest (pre ++ ch :: rest) fuel (Lex.charIndices rest (Lex.utf8Len pre + ch.utf8Size))) := by
        simpa using ih (pre ++ [ch]) rest
      have hrun (cond : Char → Bool) : EndsWell (lexRest (pre ++ ch :: rest) fuel
          (Lex.charIndices (rest.dropWhile cond) (Lex.utf8Len pre + ch.utf8Size + Lex.utf8Len (rest.takeWhile cond)))) := by
        simpa [Nat.add_assoc] using ih (pre ++ ch :: rest.takeWhile cond) (rest.dropWhile cond)
      simp only [Lex.charIndices, lexRest]
      refine ite_ind (fun _ => hnext) fun _ => ite_ind (fun _ => hnext) fun _ => ite_ind (fun _ => hnext) fun _ =>
        ite_ind (fun _ => ?_) fun _ => ite_ind (fun _ => ?_) fun _ => ite_ind (fun _ => hnext) fun _ _ => nofun
      · rw [tokenizeUntil_ok]
        exact ite_ind (fun _ _ => nofun) fun _ => hrun _
      · rw [tokenizeUntil_ok]
        exact hrun _

theorem lex_endsWell (input : List Char) : EndsWell (lex input) := by
  have key (n : Nat) : EndsWell (lexRest input (input.length + 1) ((Lex.charIndices input 0).drop n)) := by
    rw [Lex.charIndices_drop]
    simpa using lexRest_endsWell (input.take n) (input.length + 1) (input.drop n)
  exact ite_ind (fun _ => key _) fun _ => ite_ind (fun _ => key _) fun _ _ => nofun

def Outcome.NoPanic : Outcome → Prop
  | .panic _ | .errOrPanic .. => False
  | _ => True

theorem parse_noPanic (input : List Char) : (parse input).NoPanic := by
  have hl := lex_endsWell input
  unfold parse
  generalize lex input = r at hl
  obtain ⟨ts, e⟩ := r
  cases e with
  | panic s => exact absurd rfl (hl s)
  | _ => dsimp only; split <;> (try split) <;> trivial

end LambdaParser

namespace CallVariableParser

def Boundary (str : List Char) (o : Nat) : Prop := ∃ pre post, str = pre ++ post ∧ Lex.utf8Len pre = o

theorem boundary_of_mem_charIndices {str : List Char} {k : Nat} {p : Nat × Char} (h : p ∈ Lex.charIndices str k) :
    ∃ pre post, str = pre ++ post ∧ k + Lex.utf8Len pre = p.1 := by
  induction str generalizing k with
  | nil => cases h
  | cons d ds ih =>
    rcases List.mem_cons.mp h with rfl | h
    · exact ⟨[], d :: ds, rfl, rfl⟩
    · obtain ⟨pre, post, hs, ho⟩ := ih h
      exact ⟨d :: pre, post, by rw [hs]; rfl, by rw [← ho, Lex.utf8Len_cons, Nat.add_assoc]⟩

/-- what one step may do to the two fields the final slices depend on -/
def Step (s s' : ParserState) : Prop :=
  s'.currentOffset = s.currentOffset ∧ (s'.firstDotMetPos = s.firstDotMetPos ∨ s'.firstDotMetPos = some s.currentOffset)

theorem Step.refl (s : ParserState) : Step s s := ⟨rfl, Or.inl rfl⟩
theorem Step.trans {a b c : ParserState} (h1 : Step a b) (h2 : Step b c) : Step a c := by
  obtain ⟨o1, f1⟩ := h1; obtain ⟨o2, f2⟩ := h2
  refine ⟨by rw [o2, o1], ?_⟩
  rcases f2 with f2 | f2
  · rw [f2]; exact f1
  · right; rw [f2, o1]

def StepsTo {α} (s : ParserState) (f : α → ParserState) (r : R α) : Prop := ∀ a, r = .ok a → Step s (f a)

section
variable {α β : Type} {s s1 : ParserState} {f : α → ParserState} {g : β → ParserState}

theorem StepsTo.ok {a : α} (h : Step s (f a)) : StepsTo s f (.ok a) := by
  intro b hb; cases hb; exact h
theorem StepsTo.error {e : LexerError} : StepsTo s f (.error e) := nofun
theorem StepsTo.trans {r : R α} (h : Step s s1) (hr : StepsTo s1 f r) : StepsTo s f r :=
  fun a ha => h.trans (hr a ha)
theorem StepsTo.bind {x : R α} {k : α → R β} (hx : StepsTo s f x) (hk : ∀ a, StepsTo (f a) g (k a)) :
    StepsTo s g (x >>= k) := by
  intro b hb
  cases x with
  | error e => cases hb
  | ok a => exact (hx a rfl).trans (hk a b hb)

end

section
variable (c : CvpCtx) (s : ParserState)

theorem step_firstMetDot : StepsTo s (·.2) (tryParseFirstMetDot c s) :=
  ite_ind (fun _ => ite_ind (fun _ => .error) fun _ => ite_ind (fun _ => .error) fun _ => .ok ⟨rfl, .inr rfl⟩)
    fun _ => .ok (.refl s)

theorem step_floatDot : StepsTo s (·.2) (tryParseAsFloatDot c s) :=
  .bind (step_firstMetDot c s) fun (_, s1) => ite_ind (fun _ => .error) fun _ => .ok (.refl s1)

theorem step_stream : StepsTo s (·.2) (tryParseAsStream c s) :=
  ite_ind (fun _ => ite_ind (fun _ => .error) fun _ => .ok ⟨rfl, .inl rfl⟩) fun _ => .ok (.refl s)

theorem step_canon : StepsTo s (·.2) (tryParseAsCanon c s) :=
  ite_ind (fun _ => ite_ind (fun _ => .error) fun _ => .ok ⟨rfl, .inl rfl⟩) fun _ => .ok (.refl s)

theorem step_digit : Step s (tryParseAsDigit s).2 := by
  unfold tryParseAsDigit; split <;> exact ⟨rfl, .inl rfl⟩

theorem step_flattening : Step s (tryParseAsFlattening c s).2 := by
  unfold tryParseAsFlattening; split <;> exact ⟨rfl, .inl rfl⟩

theorem step_lens : StepsTo s id (tryParseAsLens c s) :=
  ite_ind (fun _ => .ok (.refl s)) fun _ => ite_ind (fun _ => .error) fun _ => .ok (step_flattening c s)

theorem step_variable : StepsTo s id (tryParseAsVariable c s) :=
  .bind (step_canon c s) fun (_, s1) => ite_ind (fun _ => .ok (.refl s1)) fun _ =>
  .bind (step_stream c s1) fun (_, s2) => ite_ind (fun _ => .ok (.refl s2)) fun _ =>
  .bind (step_firstMetDot c s2) fun (_, s3) => ite_ind (fun _ => .ok (.refl s3)) fun _ =>
  ite_ind (fun _ => step_lens c s3) fun _ => .bind (f := fun _ => s3) (fun _ _ => .refl s3) fun _ => .ok (.refl s3)

theorem step_handleNonDigit : StepsTo s id (handleNonDigit c s) :=
  ite_ind (fun _ => .error) fun _ => step_variable c { s with nonNumericMet := true }

theorem step_number : StepsTo s id (tryParseAsNumber c s) :=
  ite_ind (fun _ => .ok (.refl s)) fun _ => ite_ind (fun _ => .ok (step_digit s)) fun _ =>
  .trans (step_digit s) <| .bind (step_floatDot c _) fun (_, s2) =>
    ite_ind (fun _ => .ok (.refl s2)) fun _ => step_handleNonDigit c s2

theorem step_stepChar : StepsTo s id (stepChar c s) :=
  ite_ind (fun _ => step_number c s) fun _ => step_variable c s

end

/-- the invariant of the loop of `try_parse` -/
def Inv (str : List Char) (s : ParserState) : Prop :=
  Boundary str s.currentOffset ∧ ∀ o, s.firstDotMetPos = some o → Boundary str o

theorem inv_step {str : List Char} {s s' : ParserState} (hi : Inv str s) (hs : Step s s') : Inv str s' := by
  refine ⟨by rw [hs.1]; exact hi.1, fun o ho => ?_⟩
  rcases hs.2 with h | h
  · exact hi.2 o (by rw [← h]; exact ho)
  · rw [h] at ho; cases ho; exact hi.1

theorem inv_loop {str : List Char} {c : CvpCtx} (rest : List (Nat × Char)) (s s' : ParserState)
    (hrest : ∀ p ∈ rest, Boundary str p.1) (hi : Inv str s) (h : loop c s rest = .ok s') : Inv str s' := by
  induction rest generalizing s with
  | nil => exact inv_step hi (step_stepChar c s s' h)
  | cons p rest ih =>
    obtain ⟨pos, ch⟩ := p
    cases hs : stepChar c s with
    | error e => simp [loop, hs, bind, Except.bind] at h
    | ok s1 =>
      simp only [loop, hs, bind, Except.bind] at h
      refine ih _ (fun p hp => hrest p (List.mem_cons_of_mem _ hp)) ?_ h
      exact ⟨hrest (pos, ch) List.mem_cons_self, (inv_step hi (step_stepChar c s s1 hs)).2⟩

def TokRes.NoPanic : TokRes → Prop
  | .panic _ | .errOrPanic .. => False
  | _ => True

theorem lambdaToTok_noPanic {r : LambdaParser.Outcome} (l rr : Nat) (k : Lambda → Token) (h : r.NoPanic) :
    (lambdaToTok r l rr k).NoPanic := by
  cases r with
  | ok | err => trivial
  | panic | errOrPanic => exact h

theorem sliceBytes_boundary {str : List Char} {o : Nat} (h : Boundary str o) :
    ∃ pre post, Lex.sliceBytes str o (Lex.utf8Len str) = some post ∧ Lex.sliceBytes str 0 o = some pre := by
  obtain ⟨pre, post, rfl, rfl⟩ := h
  refine ⟨pre, post, ?_, ?_⟩
  · simpa using Lex.sliceBytes_append pre post []
  · simpa using Lex.sliceBytes_append [] pre post

theorem toToken_noPanic (str : List Char) (startPos : Nat) (s : ParserState) (hi : Inv str s) :
    (toToken { len := Lex.utf8Len str, startPos } s str).NoPanic := by
  unfold toToken
  simp only
  split
  · split <;> trivial
  · exact ite_ind (fun _ => trivial) fun _ => ite_ind (fun _ => trivial) fun _ => trivial
  · trivial
  · rename_i o _ ho
    obtain ⟨pre, post, h1, h2⟩ := sliceBytes_boundary (hi.2 o ho)
    rw [h1, h2]
    exact lambdaToTok_noPanic _ _ _ (LambdaParser.parse_noPanic _)

theorem tryParse_noPanic (str : List Char) (startPos : Nat) : (tryParse str startPos).NoPanic := by
  have hb : ∀ p ∈ Lex.charIndices str 0, Boundary str p.1 := fun p hp => by
    simpa [Boundary] using boundary_of_mem_charIndices hp
  unfold tryParse
  split
  · trivial
  · rename_i off ch rest hci
    rw [hci] at hb
    dsimp only
    split
    · trivial
    · rename_i s hl
      exact toToken_noPanic str startPos s <| inv_loop rest _ s (fun q hq => hb q (List.mem_cons_of_mem _ hq))
        ⟨hb _ List.mem_cons_self, by simp⟩ hl

end CallVariableParser

namespace AIRLexer
open CallVariableParser (TokRes TokRes.NoPanic)

theorem parseError_noPanic (input : List Char) (startPos : Nat) (tokenStr : String) (wo : Token) (wl : Lambda → Token)
    (hpre : tokenStr.toList.isPrefixOf input = true) : (parseError input startPos tokenStr wo wl).NoPanic := by
  obtain ⟨t, rfl⟩ := List.isPrefixOf_iff_prefix.mp hpre
  refine ite_ind (fun _ => trivial) fun _ => ite_ind (fun _ => trivial) fun _ => ?_
  have hs : Lex.sliceBytes (tokenStr.toList ++ t) tokenStr.utf8ByteSize (Lex.utf8Len (tokenStr.toList ++ t)) = some t := by
    simpa [Lex.utf8ByteSize_eq] using Lex.sliceBytes_append tokenStr.toList t []
  rw [hs]
  exact CallVariableParser.lambdaToTok_noPanic _ _ _ (LambdaParser.parse_noPanic _)

theorem stringToToken_noPanic (input : List Char) (startPos : Nat) : (stringToToken input startPos).NoPanic := by
  unfold stringToToken
  refine ite_ind (fun _ => trivial) fun _ => ?_
  cases lookupKeyword (String.ofList input) with
  | some t => trivial
  | none =>
    exact ite_ind (fun _ => trivial) fun _ =>
      ite_ind (parseError_noPanic _ _ _ _ _) fun _ => ite_ind (parseError_noPanic _ _ _ _ _) fun _ =>
      ite_ind (fun _ => trivial) fun _ => ite_ind (fun _ => trivial) fun _ =>
      ite_ind (fun _ => trivial) fun _ => ite_ind (fun _ => trivial) fun _ =>
      CallVariableParser.tryParse_noPanic input startPos

end AIRLexer

def LexItem.NoPanic : LexItem → Prop
  | .panic _ | .errOrPanic .. => False
  | _ => True

namespace AIRLexer

def YieldsNoPanic (o : Option (LexItem × List (Nat × Char))) : Prop := ∀ r, o = some r → r.1.NoPanic

theorem YieldsNoPanic.none : YieldsNoPanic none := fun _ => nofun
theorem YieldsNoPanic.some {item : LexItem} {rest : List (Nat × Char)} (h : item.NoPanic) :
    YieldsNoPanic (some (item, rest)) := by
  intro r hr; cases hr; exact h

theorem nextToken_noPanic (inputLen fuel : Nat) (cis : List (Nat × Char)) : YieldsNoPanic (nextToken inputLen fuel cis) := by
  induction fuel generalizing cis with
  | zero => exact .none
  | succ fuel ih =>
    cases cis with
    | nil => exact .none
    | cons p tl =>
      rw [nextToken]
      refine ite_ind (fun _ => .some trivial) fun _ => ite_ind (fun _ => .some trivial) fun _ =>
        ite_ind (fun _ => .some trivial) fun _ => ite_ind (fun _ => .some trivial) fun _ =>
        ite_ind (fun _ => ih _) fun _ => ite_ind (fun _ => ih _) fun _ => ite_ind (fun _ => ?_) fun _ => ?_
      · split <;> exact .some trivial
      · have h := stringToToken_noPanic (p.2 :: (advanceToTokenEnd inputLen [] 0 0 tl).1) p.1
        dsimp only
        cases hst : stringToToken (p.2 :: (advanceToTokenEnd inputLen [] 0 0 tl).1) p.1 with
        | ok | err => exact .some trivial
        | panic | errOrPanic => exact (hst ▸ h).elim

end AIRLexer

theorem lexItems_noPanic (inputLen fuel0 fuel : Nat) (cis : List (Nat × Char)) :
    ∀ item ∈ lexItems inputLen fuel0 fuel cis, item.NoPanic := by
  induction fuel generalizing cis with
  | zero => exact fun _ => nofun
  | succ fuel ih =>
    rw [lexItems]
    cases hn : AIRLexer.nextToken inputLen fuel0 cis with
    | none => exact fun _ => nofun
    | some r =>
      obtain ⟨item, rest⟩ := r
      have h1 : item.NoPanic := AIRLexer.nextToken_noPanic inputLen fuel0 cis _ hn
      cases item with
      | tok l t r => exact fun it hit => (List.mem_cons.mp hit).elim (· ▸ trivial) (ih rest it)
      | _ => exact fun it hit => List.mem_singleton.mp hit ▸ h1

theorem splitItems_last_mem (l : List LexItem) {ts : List Tok} {item : LexItem} (h : splitItems l = (ts, some item)) :
    item ∈ l := by
  induction l generalizing ts with
  | nil => cases h
  | cons x xs ih =>
    cases x with
    | tok a t b =>
      simp only [splitItems, Prod.mk.injEq] at h
      exact List.mem_cons_of_mem _ (ih (Prod.ext rfl h.2))
    | _ => cases h; exact List.mem_cons_self

def NoPanicRes (r : Res ParseError SInstr) : Prop := r.isPanic = false ∧ ∀ s, r ≠ .error (.syntaxThenPanic s)

theorem parseChars_noPanic (text : List Char) : NoPanicRes (parseChars text) := by
  unfold parseChars
  cases hs : splitItems (lex text) with
  | mk ts last =>
    have hfin (r : SInstr) : NoPanicRes (finishParse r) :=
      ite_ind (fun _ => ⟨rfl, nofun⟩) fun _ => ite_ind (fun _ => ⟨rfl, nofun⟩) fun _ => ⟨rfl, nofun⟩
    cases last with
    | none =>
      dsimp only
      cases Grammar.air ts with
      | ok r _ => exact hfin r
      | eof | bad => exact ⟨rfl, nofun⟩
    | some item =>
      have hp := lexItems_noPanic _ _ _ _ item (splitItems_last_mem _ hs)
      cases item with
      | panic s | errOrPanic e s => exact hp.elim
      | tok a t b | err e => dsimp only; split <;> exact ⟨rfl, nofun⟩

end Aqua.Air
