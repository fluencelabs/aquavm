import AquaProps.Lemmas.C16Operand
import AquaProps.Lemmas.C16Trace
import AquaProps.Lemmas.ExecRel
import AquaProps.Lemmas.UseSite
/-!
# C16 lemmas, part 4: one run of the executor against the reference evaluator (flat sub-fragment)

The invariant `Inv` between an executor context and a reference state, the updates of the context that
keep it, and the simulation of `call`.
-/
namespace AquaProps.C16
open Aqua Aqua.Json Aqua.Air Aqua.Exec Aqua.Ref

def OkEntry (O : Oracle) (env : Env) (cs : CidState) (cid : Data.Cid) : Prop :=
  ∀ v t agg, resolveServiceInfo env cs cid = .ok (v, t, agg) →
    ∀ args, env.hash (argsJson args) = agg.argumentHash → O t.peerPk t.serviceId t.functionName args = .ok v

def FailEntry (O : Oracle) (env : Env) (cs : CidState) (cid : Data.Cid) : Prop :=
  ∀ v t agg, resolveServiceInfo env cs cid = .ok (v, t, agg) →
    ∀ args, env.hash (argsJson args) = agg.argumentHash → ∃ rc msg, O t.peerPk t.serviceId t.functionName args = .fail rc msg

/-- a trace state that agrees with the oracle (through the CID stores).  `Executed(Unused)` carries
nothing that ties it to a call, so it is not accepted here (gap of the `_partial` theorems). -/
def GoodState (O : Oracle) (env : Env) (cs : CidState) : Data.ExecutedState → Prop
  | .call (.executed (.scalar cid)) => OkEntry O env cs cid
  | .call (.executed (.unused _)) => False
  | .call (.failed cid) => FailEntry O env cs cid
  | _ => True

def toCall (r : CallRequest) : Call := ⟨r.forPeer, r.serviceId, r.functionName, r.arguments⟩

/-- the invariant between an executor context and a reference state; `cs`, `T1`, `T2` are the CID
stores and the two input traces of the run (they never change in a run without call results) -/
structure Inv (p : Params) (cs : CidState) (T1 T2 : Data.Trace) (c : Ctx) (s : State) : Prop where
  flatC : FlatC c
  flatS : FlatS s
  sub : Sub c s
  params : SameParams c p
  noResults : c.callResults = []
  cid : c.cid = cs
  ptrace : c.th.keeper.prev.trace = T1
  ctrace : c.th.keeper.cur.trace = T2
  reqs : ∀ x ∈ c.callRequests, toCall x.2 ∈ s.calls

/-- the parts of the context the invariant reads are the same -/
structure SameCore (c c' : Ctx) : Prop where
  scalars : c'.scalars = c.scalars
  init : c'.initPeerId = c.initPeerId
  ts : c'.timestamp = c.timestamp
  ttl : c'.ttl = c.ttl
  results : c'.callResults = c.callResults
  cid : c'.cid = c.cid
  th : HandlerSame c.th c'.th
  reqs : c'.callRequests = c.callRequests

/-- what the reference evaluator has done at a call whose triplet resolves to `t` -/
structure CallFacts (O : Oracle) (p : Params) (s s' : State) (o : Outcome) (t : Tetraplet) (args : List Value)
    (out : CallOutput) : Prop where
  called : ∀ vs, operands p s args = some (.val vs) →
    (⟨t.peerPk, t.serviceId, t.functionName, vs⟩ : Call) ∈ s'.calls ∧
    (match O t.peerPk t.serviceId t.functionName vs with
     | .ok v => o = .done ∧ ∀ name, out = .scalar name → s'.lookup name = .val v
     | .fail _ _ => o = .failed)
  argsErr : operands p s args = some .error → o = .failed

/-- the statement of the simulation for one instruction: executor result `r`, final context `c'`
against the reference outcome `e.1` and final state `e.2` -/
structure SimPost (p : Params) (cs : CidState) (T1 T2 : Data.Trace) (r : Res ExecErr Unit) (c' : Ctx) (e : Outcome × State) : Prop where
  inv : Inv p cs T1 T2 c' e.2
  done : r = .ok () → c'.subgraphComplete = true → e.1 = .done
  failed : ∀ ce, r = .error (.catchable ce) → e.1 = .failed

theorem bind_run {α β : Type} (m : M α) (f : α → M β) (c : Ctx) :
    (m >>= f) c = (match m c with
      | (.ok a, c') => f a c'
      | (.error e, c') => (.error e, c')
      | (.panic s, c') => (.panic s, c')) := bind_apply m f c

theorem lookup_nil {β : Type} (k : String) : Exec.lookup ([] : List (String × β)) k = none := rfl

namespace SameCore

theorem refl (c : Ctx) : SameCore c c := ⟨rfl, rfl, rfl, rfl, rfl, rfl, HandlerSame.refl _, rfl⟩

theorem trans {a b c : Ctx} (h1 : SameCore a b) (h2 : SameCore b c) : SameCore a c :=
  ⟨h2.scalars.trans h1.scalars, h2.init.trans h1.init, h2.ts.trans h1.ts, h2.ttl.trans h1.ttl,
   h2.results.trans h1.results, h2.cid.trans h1.cid, h1.th.trans h2.th, h2.reqs.trans h1.reqs⟩

/-- the invariant reads neither the error slots, the completeness flag, the next peers, the registered
CIDs nor the request counter, and of the trace handler only its two input traces -/
theorem of_eq {c c' : Ctx} (hth : HandlerSame c.th c'.th)
    (h : c' =
      { c with nextPeerPks := c'.nextPeerPks, lastError := c'.lastError, error := c'.error,
               subgraphComplete := c'.subgraphComplete, lastCallRequestId := c'.lastCallRequestId,
               peerCids := c'.peerCids, th := c'.th } := by rfl) : SameCore c c' := by
  rw [h]; exact ⟨rfl, rfl, rfl, rfl, rfl, rfl, hth, rfl⟩

end SameCore

theorem sameCore_flag (c : Ctx) (b : Bool) : SameCore c { c with subgraphComplete := b } := .of_eq (.refl _)

theorem sameCore_th (c : Ctx) (th : Trace.TraceHandler) (h : HandlerSame c.th th) : SameCore c { c with th := th } :=
  .of_eq (c' := { c with th := th }) h

theorem sameCore_setErrors (c : Ctx) (e : CatchableErr) (i : String) (t : Option Tetraplet) (b : Bool) :
    SameCore c (c.setErrors e i t b) := .of_eq (.refl _)

theorem sameCore_callSetErrors (i : Instr) (t : Option Tetraplet) (e : ExecErr) (c : Ctx) : SameCore c (callSetErrors i t e c) := by
  unfold callSetErrors
  split
  · split
    · exact .refl c
    · exact sameCore_setErrors ..
  · exact .refl c

theorem sameCore_setErrorsOf (e : ExecErr) (i : Instr) (c : Ctx) : SameCore c (c.setErrorsOf e i) := by
  unfold Ctx.setErrorsOf
  split
  · exact sameCore_setErrors ..
  · exact .refl c

theorem sameCore_recordCallCid (c : Ctx) (peer : String) (cid : Data.Cid) : SameCore c (c.recordCallCid peer cid) := by
  unfold Ctx.recordCallCid
  split <;> exact .of_eq (.refl _)

theorem sameCore_xorEnterRight (e : CatchableErr) (c : Ctx) : SameCore c (xorEnterRight e c) := .of_eq (.refl _)

theorem sameCore_xorLeaveRight (b : Bool) (c : Ctx) : SameCore c (xorLeaveRight b c) ∧
    (xorLeaveRight b c).subgraphComplete = c.subgraphComplete := by
  unfold xorLeaveRight
  dsimp only
  split <;> split <;> exact ⟨.of_eq (.refl _), rfl⟩

theorem recordCallCid_flag (c : Ctx) (peer : String) (cid : Data.Cid) :
    (c.recordCallCid peer cid).subgraphComplete = c.subgraphComplete := by
  unfold Ctx.recordCallCid; split <;> rfl

variable {O : Oracle} {env : Env} {p : Params} {cs : CidState} {T1 T2 : Data.Trace} {c c' : Ctx} {s s' : State}

theorem Pre.congr (h : Pre p c s) (hc : SameCore c c') : Pre p c' s :=
  ⟨⟨hc.scalars ▸ h.flatC.iter, hc.scalars ▸ h.flatC.m⟩,
   by have := h.sub; unfold Sub scalarOf at this ⊢; rwa [hc.scalars],
   ⟨hc.init.trans h.params.init, hc.ts.trans h.params.ts, hc.ttl.trans h.params.ttl⟩⟩

/-- in a flat context `setScalarValue` succeeds only for a name that is not set yet -/
theorem setScalarValue_flat (hc : FlatC c) {name : String} {va : ValueAggregate} {sc : Scalars}
    (h : c.scalars.setScalarValue name va = .ok sc) :
    FlatC { c with scalars := sc } ∧ ∀ n, scalarOf { c with scalars := sc } n = if n = name then some va else scalarOf c n := by
  simp only [Scalars.setScalarValue, Res.bind_eq_ok, Res.pure_eq_ok] at h
  obtain ⟨⟨b, m⟩, hsv, rfl⟩ := h
  simp only [SparseMatrix.setValue, SparseMatrix.getCells] at hsv
  cases hl : Exec.lookup c.scalars.nonIterable.cells name with
  | some cells =>
    obtain ⟨v0, rfl⟩ := hc.m.cells name cells hl
    simp [hl, SparseMatrix.variableCouldBeSet, SparseMatrix.shadowingAllowed, hc.m.depth, SparseMatrix.getCells, uncatchable] at hsv
  | none =>
    simp only [hl] at hsv
    cases hsv
    refine ⟨⟨hc.iter, hc.m.depth, hc.m.allowed, fun n cells hn => ?_⟩, fun n => ?_⟩
    · simp only [SparseMatrix.setCells, lookup_upsert] at hn
      split at hn
      · cases hn; exact ⟨va, by rw [hc.m.depth]⟩
      · exact hc.m.cells n cells hn
    · simp only [scalarOf, SparseMatrix.setCells, lookup_upsert]
      by_cases hn : n = name <;> simp only [hn, if_true, if_false]

namespace Inv

theorem pre (h : Inv p cs T1 T2 c s) : Pre p c s := ⟨h.flatC, h.sub, h.params⟩

theorem congr (h : Inv p cs T1 T2 c s) (hc : SameCore c c') : Inv p cs T1 T2 c' s :=
  have q := h.pre.congr hc
  ⟨q.flatC, h.flatS, q.sub, q.params, hc.results.trans h.noResults, hc.cid.trans h.cid,
   hc.th.1.trans h.ptrace, hc.th.2.trans h.ctrace, hc.reqs ▸ h.reqs⟩

/-- the reference side may run ahead -/
theorem mono {bs : List String} (h : Inv p cs T1 T2 c s) (g : Grows bs s s') : Inv p cs T1 T2 c s' :=
  { h with flatS := g.flat, sub := fun n va hn => g.env n _ (h.sub n va hn),
           reqs := fun x hx => g.toExt.mem_calls (h.reqs x hx) }

theorem pushRequest (h : Inv p cs T1 T2 c s) (x : Nat × CallRequest) (hx : toCall x.2 ∈ s.calls) :
    Inv p cs T1 T2 { c with callRequests := c.callRequests ++ [x] } s :=
  ⟨⟨h.flatC.iter, h.flatC.m⟩, h.flatS, h.sub, ⟨h.params.init, h.params.ts, h.params.ttl⟩, h.noResults, h.cid,
   h.ptrace, h.ctrace, fun y hy => by
    rcases List.mem_append.mp hy with hy | hy
    · exact h.reqs y hy
    · cases List.mem_singleton.mp hy; exact hx⟩

theorem setScalar (h : Inv p cs T1 T2 c s) {name : String} {va : ValueAggregate} {sc : Scalars}
    (hss : c.scalars.setScalarValue name va = .ok sc) (hv : s.lookup name = .val va.result) :
    Inv p cs T1 T2 { c with scalars := sc } s := by
  obtain ⟨hflat, hsc⟩ := setScalarValue_flat h.flatC hss
  refine ⟨hflat, h.flatS, fun n va' hn => ?_, ⟨h.params.init, h.params.ts, h.params.ttl⟩, h.noResults, h.cid,
    h.ptrace, h.ctrace, h.reqs⟩
  rw [hsc n] at hn
  split at hn
  · cases hn; subst n; exact hv
  · exact h.sub n va' hn

end Inv

def NoCatch {α : Type} (r : ER α) : Prop := ∀ ce, r ≠ .error (.catchable ce)

theorem NoCatch.bind {α β : Type} {x : ER α} {k : α → ER β} (hx : NoCatch x) (hk : ∀ a, NoCatch (k a)) :
    NoCatch (x >>= k) := by
  rcases x with a | e | s
  · exact hk a
  · exact fun ce h => hx ce (by cases h; rfl)
  · exact fun _ => (nomatch ·)

theorem noCatch_ok {α : Type} (a : α) : NoCatch (.ok a : ER α) := fun _ => (nomatch ·)

theorem resolveServiceInfo_noCatch (env : Env) (cs : CidState) (cid : Data.Cid) : NoCatch (resolveServiceInfo env cs cid) :=
  fun _ h => let ⟨_, hu⟩ := UseSite.resolveServiceInfo_error h; nomatch hu

theorem verifyCall_noCatch (eh sh : String) (et st : Tetraplet) : NoCatch (verifyCall eh et sh st) :=
  fun _ h => let ⟨_, _, _, hu⟩ := UseSite.verifyCall_error h; nomatch hu

theorem setScalarValue_noCatch (sc : Scalars) (name : String) (va : ValueAggregate) : NoCatch (sc.setScalarValue name va) := by
  refine .bind ?_ fun _ => noCatch_ok _
  unfold SparseMatrix.setValue
  dsimp only
  repeat' split
  all_goals simp [NoCatch, uncatchable]

theorem populateFromData_noCatch (env : Env) (c : Ctx) (value : Data.ValueRef) (ah : String) (t : Tetraplet) (pos : Nat)
    {out : CallOutput} (hout : ∀ n pos, out ≠ .stream n pos) (src : Trace.ValueSource) :
    NoCatch (populateFromData env c value ah t pos out src) := by
  unfold populateFromData
  split
  · exact .bind (resolveServiceInfo_noCatch _ _ _) fun _ => .bind (verifyCall_noCatch _ _ _ _) fun _ =>
      .bind (setScalarValue_noCatch _ _ _) fun _ => noCatch_ok _
  · exact absurd rfl (hout _ _)
  all_goals simp [NoCatch, uncatchable]

/-! `s` is the reference state in which the call is evaluated, `s'` and `o` the state and the outcome after it. -/

variable {o : Outcome} {t : Tetraplet} {args : List Value} {out : CallOutput}

/-- what the parts of `call` after the state is prepared establish -/
structure CallPost (p : Params) (cs : CidState) (T1 T2 : Data.Trace) (s' : State) (o : Outcome)
    (x : Res ExecErr Unit × Ctx) : Prop where
  inv : Inv p cs T1 T2 x.2 s'
  done : x.1 = .ok () → x.2.subgraphComplete = true → o = .done
  failed : ∀ ce, x.1 = .error (.catchable ce) → ce.isJoinable = false → o = .failed

namespace CallPost

theorem incomplete (hi : Inv p cs T1 T2 c' s') (hc : c'.subgraphComplete = false) :
    CallPost p cs T1 T2 s' o (.ok (), c') :=
  ⟨hi, fun _ h => (by rw [hc] at h; cases h), fun _ => (nomatch ·)⟩

theorem error {e : ExecErr} (hi : Inv p cs T1 T2 c' s')
    (h : ∀ ce, e = .catchable ce → ce.isJoinable = false → o = .failed) : CallPost p cs T1 T2 s' o (.error e, c') :=
  ⟨hi, (nomatch ·), fun ce h' => h ce (by cases h'; rfl)⟩

theorem panic {site : String} (hi : Inv p cs T1 T2 c' s') : CallPost p cs T1 T2 s' o (.panic site, c') :=
  ⟨hi, (nomatch ·), fun _ => (nomatch ·)⟩

end CallPost

theorem issueRequest_sim (hargs : args.all FragV = true) (hpre : Pre p c s) (hinv : Inv p cs T1 T2 c s')
    (hf : CallFacts O p s s' o t args out) :
    (∀ c1, issueRequest t args c = .ok c1 → Inv p cs T1 T2 c1 s' ∧ c1.subgraphComplete = false) ∧
    (∀ ce, issueRequest t args c = .error (.catchable ce) → ce.isJoinable = false → o = .failed) := by
  obtain ⟨ga, hga, hag⟩ := collectArgs_agrees hpre args hargs
  unfold issueRequest
  obtain ⟨⟨vs, tss⟩, hca, rfl⟩ | ⟨ce, hca, hj⟩ | ⟨ce, hca, -, rfl⟩ := hag.cases <;> rw [hca] <;> dsimp only
  · refine ⟨fun c1 h => ?_, fun ce h => by split at h <;> cases h⟩
    split at h <;> cases h
    have hreq := hinv.pushRequest (c.lastCallRequestId + 1, ⟨t.serviceId, t.functionName, vs, tss, t.peerPk⟩) (hf.called vs hga).1
    exact ⟨hreq.congr (.of_eq (meetCallEnd_same _ _)), rfl⟩
  · exact ⟨fun _ h => (nomatch h), fun ce' h hnj => by cases h; rw [hnj] at hj; cases hj⟩
  · exact ⟨fun _ h => (nomatch h), fun _ _ _ => hf.argsErr hga⟩

theorem maybeSetPrevState_run (st : StateDescriptor) (c : Ctx) :
    ∃ c', st.maybeSetPrevState c = (.ok (), c') ∧ SameCore c c' ∧ c'.subgraphComplete = c.subgraphComplete := by
  rcases st with ⟨b, _ | cr⟩
  · exact ⟨c, rfl, .refl c, rfl⟩
  · exact ⟨_, rfl, .of_eq (meetCallEnd_same _ _), rfl⟩

theorem dispatch_sim (hargs : args.all FragV = true) (hpre : Pre p c s) (hinv : Inv p cs T1 T2 c s')
    (hf : CallFacts O p s s' o t args out) (st : StateDescriptor) : CallPost p cs T1 T2 s' o (dispatch t args st c) := by
  have hi := issueRequest_sim hargs hpre hinv hf
  simp only [dispatch, bind_apply, readCtx_apply]
  split
  · exact .incomplete (hinv.congr (.of_eq (meetCallEnd_same _ _))) rfl
  · simp only [bind_apply, tryM_apply, modifyER_apply]
    rcases hir : issueRequest t args c with c1 | e | site <;> simp only []
    · exact .incomplete (hi.1 c1 hir).1 (hi.1 c1 hir).2
    · have he : ∀ ce, e = .catchable ce → ce.isJoinable = false → o = .failed := fun ce h => hi.2 ce (h ▸ hir)
      split
      · -- joinable: the previous state is put back, the error goes up
        obtain ⟨c2, hc2, h2, -⟩ := maybeSetPrevState_run st c
        rw [bind_apply, hc2]
        exact .error (hinv.congr h2) he
      · exact .error hinv he
    · exact .panic hinv

theorem afterState_sim (hargs : args.all FragV = true) (hinv : Inv p cs T1 T2 c s') (hf : CallFacts O p s s' o t args out)
    (se : Bool) (prev : Option Data.CallResult) (hpre : se = true → Pre p c s)
    (hdone : se = false → c.subgraphComplete = true → o = .done) :
    CallPost p cs T1 T2 s' o (afterState t args (.mk se prev) c) := by
  cases se with
  | false =>
    obtain ⟨c2, hc2, h2, h3⟩ := maybeSetPrevState_run (.mk false prev) c
    simp only [afterState, Bool.not_false, if_true, hc2]
    exact ⟨hinv.congr h2, fun _ hc => hdone rfl (h3 ▸ hc), fun _ => (nomatch ·)⟩
  | true => exact dispatch_sim hargs (hpre rfl) hinv hf _

theorem unwrapHash_run (site : String) (o : Option String) (c : Ctx) :
    unwrapHash site o c = (match o with | some h => (.ok h, c) | none => (.panic site, c)) := by
  cases o <;> rfl

/-- what `handlePrevState` establishes: a catchable error only where the reference call failed; "execute" leaves
the context as it is; "do not execute" on a complete subgraph only where the reference call is done -/
structure PrevPost (p : Params) (cs : CidState) (T1 T2 : Data.Trace) (s' : State) (o : Outcome) (c : Ctx)
    (x : Res ExecErr StateDescriptor × Ctx) : Prop where
  inv : Inv p cs T1 T2 x.2 s'
  failed : ∀ ce, x.1 = .error (.catchable ce) → o = .failed
  exec : ∀ prev, x.1 = .ok (.mk true prev) → x.2 = c
  skip : ∀ prev, x.1 = .ok (.mk false prev) → x.2.subgraphComplete = true → o = .done

namespace PrevPost

theorem panic {site : String} (hi : Inv p cs T1 T2 c' s') : PrevPost p cs T1 T2 s' o c (.panic site, c') :=
  ⟨hi, fun _ => (nomatch ·), fun _ => (nomatch ·), fun _ => (nomatch ·)⟩

theorem error {e : ExecErr} (hi : Inv p cs T1 T2 c' s') (h : ∀ ce, e = .catchable ce → o = .failed) :
    PrevPost p cs T1 T2 s' o c (.error e, c') :=
  ⟨hi, fun ce h' => h ce (by cases h'; rfl), fun _ => (nomatch ·), fun _ => (nomatch ·)⟩

theorem ofER {α : Type} {r : ER α} (hi : Inv p cs T1 T2 c' s') (h : NoCatch r) {e : ExecErr} (he : r = .error e) :
    PrevPost p cs T1 T2 s' o c (.error e, c') :=
  .error hi fun ce h' => absurd (h' ▸ he) (h ce)

theorem skipped {prev : Option Data.CallResult} (hi : Inv p cs T1 T2 c' s')
    (hd : c'.subgraphComplete = true → o = .done) : PrevPost p cs T1 T2 s' o c (.ok (.mk false prev), c') :=
  ⟨hi, fun _ => (nomatch ·), fun _ => (nomatch ·), fun _ _ => hd⟩

end PrevPost

theorem sentByOther_sim (hinv : Inv p cs T1 T2 c s') (met : Trace.MetCallResult) :
    PrevPost p cs T1 T2 s' o c (sentByOther met t c) := by
  rw [sentByOther_eq]
  split
  · exact ⟨hinv, fun _ => (nomatch ·), fun _ _ => rfl, fun _ => (nomatch ·)⟩
  · exact .skipped (hinv.congr (sameCore_flag c false)) (nomatch ·)

theorem handlePrevState_sim (hinv : Inv p cs T1 T2 c s') (hf : CallFacts O p s s' o t args out)
    (hout : ∀ n pos, out ≠ .stream n pos) (met : Trace.MetCallResult) (hgood : GoodState O env cs (.call met.result))
    (checked : Option (List JVal)) (hck : ∀ vs, checked = some vs → operands p s args = some (.val vs)) :
    PrevPost p cs T1 T2 s' o c (handlePrevState env met t (checked.map fun vs => env.hash (argsJson vs)) out c) := by
  unfold handlePrevState
  cases hres : met.result with
  | failed failedCid =>
    rw [hres] at hgood
    simp only [bind_apply, readER_apply, unwrapHash_run]
    rcases hrs : resolveServiceInfo env c.cid failedCid with ⟨errValue, curT, agg⟩ | e | site <;> simp only []
    · cases checked with
      | none => exact .panic hinv
      | some vs =>
        simp only [Option.map_some]
        rcases hv : verifyCall _ t agg.argumentHash curT with u | e | site <;> simp only []
        · obtain ⟨hah1, rfl⟩ := UseSite.verifyCall_ok hv
          -- the oracle fails this call
          obtain ⟨rc, msg, hO⟩ := hgood errValue t agg (hinv.cid ▸ hrs) vs hah1
          have hfail : o = .failed := by have := (hf.called vs (hck vs rfl)).2; rwa [hO] at this
          generalize errValue.getField "ret_code" = f1
          generalize errValue.getField "message" = f2
          split
          · split
            · exact .error hinv fun _ => (nomatch ·)
            · exact .error (hinv.congr ((sameCore_recordCallCid ..).trans (.of_eq (meetCallEnd_same _ _))))
                fun _ _ => hfail
          · exact .error hinv fun _ => (nomatch ·)
        · exact .ofER hinv (verifyCall_noCatch _ _ _ _) hv
        · exact .panic hinv
    · exact .ofER hinv (resolveServiceInfo_noCatch _ _ _) hrs
    · exact .panic hinv
  | requestSentBy sender =>
    cases sender with
    | peerId peer => exact sentByOther_sim hinv met
    | peerIdWithCallId peer callId =>
      simp only [bind_apply, readCtx_apply]
      split
      · -- this peer's own request: no result has arrived in this run
        have hl : Exec.lookup c.callResults (toString callId) = none := by rw [hinv.noResults]; rfl
        simp only [bind_apply, readCtx_apply, hl, makeSubgraphIncomplete, modifyCtx_apply, pure_apply]
        exact .skipped (hinv.congr (sameCore_flag c false)) (nomatch ·)
      · exact sentByOther_sim hinv met
  | executed value =>
    rw [hres] at hgood
    simp only [bind_apply, unwrapHash_run, modifyER_apply, modifyCtx_apply, pure_apply]
    cases checked with
    | none => exact .panic hinv
    | some vs =>
      simp only [Option.map_some]
      rcases hpd : populateFromData env c value _ t met.tracePos out met.source with c1 | e | site <;> simp only []
      · -- only a scalar result bound to a scalar output gets here
        rcases value with cid | ⟨cid, g⟩ | cid
        · cases out with
          | none => simp [populateFromData, uncatchable] at hpd
          | stream n pos => exact absurd rfl (hout n pos)
          | scalar name =>
            simp only [populateFromData, Res.bind_eq_ok, Res.pure_eq_ok] at hpd
            obtain ⟨⟨v, curT, agg⟩, hrs, u, hv, sc, hss, rfl⟩ := hpd
            obtain ⟨hah1, rfl⟩ := UseSite.verifyCall_ok hv
            have h2 := (hf.called vs (hck vs rfl)).2
            rw [hgood v t agg (hinv.cid ▸ hrs) vs hah1] at h2
            exact .skipped ((hinv.setScalar hss (h2.2 name rfl)).congr
              ((sameCore_recordCallCid ..).trans (.of_eq (meetCallEnd_same _ _)))) fun _ => h2.1
        · cases out <;> first | exact absurd rfl (hout _ _) | simp [populateFromData, uncatchable] at hpd
        · exact hgood.elim
      · exact .ofER hinv (populateFromData_noCatch env c value _ t met.tracePos hout met.source) hpd
      · exact .panic hinv

/-- `ResolvedCall::execute` from `meet_call_start` on; `checked` are the argument values, if they resolved -/
theorem metExecute_sim (i : Instr) (hargs : args.all FragV = true) (hpre : Pre p c s) (hinv : Inv p cs T1 T2 c s')
    (hf : CallFacts O p s s' o t args out) (hout : ∀ n pos, out ≠ .stream n pos)
    (hgood : ∀ st, st ∈ T1 ∨ st ∈ T2 → GoodState O env cs st) (checked : Option (List JVal))
    (hck : ∀ vs, checked = some vs → operands p s args = some (.val vs)) :
    CallPost p cs T1 T2 s' o ((liftTH i (fun th => th.meetCallStart) >>= fun met =>
      prepareState env met t (checked.map fun vs => env.hash (argsJson vs)) out >>= fun state =>
      afterState t args state) c) := by
  simp only [bind_apply, liftTH_apply]
  rcases hms : c.th.meetCallStart with ⟨m, th'⟩ | e | site <;> simp only []
  · obtain ⟨hsameth, hmet⟩ := meetCallStart_spec hms
    have hsame := sameCore_th c th' hsameth
    have hinv1 := hinv.congr hsame
    have hpre1 := hpre.congr hsame
    cases m with
    | notMet => exact afterState_sim hargs hinv1 hf true none (fun _ => hpre1) (nomatch ·)
    | met mr =>
      have hgoodm : GoodState O env cs (.call mr.result) := by
        obtain ⟨res, ⟨pos, src, hm⟩, hmem⟩ := hmet.resolve_left (nomatch ·)
        cases hm
        exact hgood _ (hmem.imp (hinv.ptrace ▸ ·) (hinv.ctrace ▸ ·))
      have h2 := handlePrevState_sim hinv1 hf hout mr hgoodm checked hck
      simp only [prepareState]
      generalize handlePrevState env mr t _ out { c with th := th' } = x at h2 ⊢
      obtain ⟨⟨se, prev⟩ | e | site, c2⟩ := x <;> simp only []
      · refine afterState_sim hargs h2.inv hf se prev ?_ ?_
        · rintro rfl; rw [h2.exec prev rfl]; exact hpre1
        · rintro rfl; exact h2.skip prev rfl
      · exact .error h2.inv fun ce h _ => h2.failed ce (by rw [h])
      · exact .panic h2.inv
  · exact .error hinv fun _ => (nomatch ·)
  · exact .panic hinv

theorem resolvedExecute_sim (i : Instr) (hargs : args.all FragV = true) (hpre : Pre p c s) (hinv : Inv p cs T1 T2 c s')
    (hf : CallFacts O p s s' o t args out) (hout : ∀ n pos, out ≠ .stream n pos)
    (hgood : ∀ st, st ∈ T1 ∨ st ∈ T2 → GoodState O env cs st) :
    CallPost p cs T1 T2 s' o (resolvedExecute env i t args out c) := by
  obtain ⟨ga, hga, hag⟩ := collectArgs_agrees hpre args hargs
  unfold resolvedExecute
  rw [bind_apply]
  simp only [readER_apply, checkArgs]
  obtain ⟨⟨vs, tss⟩, hca, rfl⟩ | ⟨ce, hca, hj⟩ | ⟨ce, hca, hj, rfl⟩ := hag.cases <;> rw [hca] <;> simp only []
  · exact metExecute_sim i hargs hpre hinv hf hout hgood (some vs) (by rintro _ ⟨⟩; exact hga)
  · simp only [ExecErr.isJoinable, hj, if_true]
    exact metExecute_sim i hargs hpre hinv hf hout hgood none fun _ => (nomatch ·)
  · simp only [ExecErr.isJoinable, hj, Bool.false_eq_true, if_false]
    exact .error hinv fun _ _ _ => hf.argsErr hga

theorem checkOutputName_noCatch (c : Ctx) (out : CallOutput) : NoCatch (checkOutputName c out) := by
  unfold checkOutputName
  repeat' split
  all_goals simp [NoCatch, uncatchable]

theorem callResult_facts {a b d : String} {ga : Got (List JVal)} (hs : FlatS s) (hout : ∀ n pos, out ≠ .stream n pos)
    (ha : operands p s args = some ga) (hna : NoAbort (callResult O s out (.val (a, b, d)) ga).1) :
    CallFacts O p s (callResult O s out (.val (a, b, d)) ga).2 (callResult O s out (.val (a, b, d)) ga).1
      { peerPk := a, serviceId := b, functionName := d } args out := by
  have hok : outOk s out = true := by
    cases h : outOk s out with
    | true => rfl
    | false => simp only [callResult, h, if_true] at hna; exact absurd rfl (hna _)
  simp only [callResult, hok, Bool.true_eq_false, if_false]
  constructor
  · intro vs hvs
    rw [ha] at hvs
    cases hvs
    simp only []
    cases O a b d vs with
    | fail code msg => exact ⟨by simp [pushCall], rfl⟩
    | ok v =>
      cases out with
      | none => exact ⟨by simp [pushCall], rfl, fun _ => (nomatch ·)⟩
      | stream n pos => exact absurd rfl (hout n pos)
      | scalar name =>
        refine ⟨(grows_bind (flat_pushCall hs _) name v hok).toExt.mem_calls (by simp [pushCall]), rfl, ?_⟩
        rintro _ ⟨⟩
        rw [lookup_bind (flat_pushCall hs _), if_pos rfl]
  · intro herr
    rw [ha] at herr
    cases herr
    rfl

abbrev Sim (p : Params) (cs : CidState) (T1 T2 : Data.Trace) (x : Res ExecErr Unit × Ctx) (e : Outcome × State) : Prop :=
  SimPost p cs T1 T2 x.1 x.2 e

namespace Sim
variable {e : Outcome × State}

theorem incomplete (hi : Inv p cs T1 T2 c' e.2) (hc : c'.subgraphComplete = false) : Sim p cs T1 T2 (.ok (), c') e :=
  ⟨hi, fun _ h => (by rw [hc] at h; cases h), fun _ => (nomatch ·)⟩

theorem error {er : ExecErr} (hi : Inv p cs T1 T2 c' e.2) (h : ∀ ce, er = .catchable ce → e.1 = .failed) :
    Sim p cs T1 T2 (.error er, c') e :=
  ⟨hi, (nomatch ·), fun ce h' => h ce (by cases h'; rfl)⟩

theorem panic {site : String} (hi : Inv p cs T1 T2 c' e.2) : Sim p cs T1 T2 (.panic site, c') e :=
  ⟨hi, (nomatch ·), fun _ => (nomatch ·)⟩

end Sim

theorem execCall_sim (hgood : ∀ st, st ∈ T1 ∨ st ∈ T2 → GoodState O env cs st)
    (fuel : Nat) (up : Bool) (peer svc func : Value) (args : List Value) (out : CallOutput) (i : Instr) (c : Ctx) (s : State)
    (hfrag : FragA (.call peer svc func args out) = true) (hinv : Inv p cs T1 T2 c s)
    (hna : NoAbort (eval O p (fuel + 1) up (.call peer svc func args out) s).1) :
    Sim p cs T1 T2 (execCall env i peer svc func args out c) (eval O p (fuel + 1) up (.call peer svc func args out) s) := by
  have hinv' := hinv.mono (eval_ext O p (fuel + 1) up _ s hfrag hinv.flatS)
  simp only [FragA, Bool.and_eq_true] at hfrag
  obtain ⟨⟨⟨⟨hfp, hfs⟩, hff⟩, hargs⟩, hout⟩ := hfrag
  have hout' : ∀ n pos, out ≠ .stream n pos := by rintro n pos rfl; cases hout
  obtain ⟨gp, gs, gf, hgp, hgs, hgf, hagt⟩ := tripletER_agrees hinv.pre peer svc func hfp hfs hff
  obtain ⟨ga, hga, -⟩ := collectArgs_agrees hinv.pre args hargs
  rw [eval_call O p fuel up hgp hgs hgf hga hout'] at hna hinv' ⊢
  simp only [execCall, bind_apply, joinable_apply, onError_apply, readER_apply, resolveCall_eq]
  obtain ⟨⟨a, b, d⟩, htr, ht⟩ | ⟨ce, htr, hj⟩ | ⟨ce, htr, hj, hg⟩ := hagt.cases <;> rw [htr] <;>
    simp only [Res.bind_ok, Res.bind_error]
  · -- the triplet is resolved
    rw [ht] at hna hinv' ⊢
    rcases hco : checkOutputName c out with u | e' | site <;>
      simp only [Res.bind_ok, Res.bind_error, Res.bind_panic, bind_apply, joinable_apply, onError_apply, pure_apply]
    · have h2 := resolvedExecute_sim (env := env) i hargs hinv.pre hinv' (callResult_facts hinv.flatS hout' hga hna) hout' hgood
      generalize resolvedExecute env i _ args out c = x at h2 ⊢
      obtain ⟨u | e2 | site, c2⟩ := x <;> simp only []
      · exact ⟨h2.inv, fun _ => h2.done rfl, fun _ => (nomatch ·)⟩
      · cases hj2 : e2.isJoinable <;> simp only [Bool.false_eq_true, if_true, if_false]
        · exact .error (h2.inv.congr (sameCore_callSetErrors ..)) fun ce h => by subst h; exact h2.failed ce rfl hj2
        · exact .incomplete (h2.inv.congr ((sameCore_callSetErrors ..).trans (sameCore_flag _ false))) rfl
      · exact .panic h2.inv
    · -- the output name is taken: the run stops
      have hnj : e'.isJoinable = false := by
        rcases e' with ce | _ | _
        · exact absurd hco (checkOutputName_noCatch c out ce)
        · rfl
        · rfl
      simp only [hnj, Bool.false_eq_true, if_false]
      exact .error (hinv'.congr (sameCore_callSetErrors ..)) fun ce h => absurd (h ▸ hco) (checkOutputName_noCatch c out ce)
    · exact .panic hinv'
  · simp only [ExecErr.isJoinable, hj, if_true]
    exact .incomplete (hinv'.congr ((sameCore_callSetErrors ..).trans (sameCore_flag _ false))) rfl
  · simp only [ExecErr.isJoinable, hj, Bool.false_eq_true, if_false]
    rw [hg]
    exact .error (hinv.congr (sameCore_callSetErrors ..)) fun _ _ => rfl

theorem execFail_run (arg : FailArg) (c : Ctx) : SameCore c (execFail arg c).2 ∧ (execFail arg c).1 ≠ .ok () := by
  simp only [execFail, bind_apply, readER_apply]
  rcases failOperand c arg with ⟨v, t, pr⟩ | e | site <;> simp only []
  · cases arg <;> simp only []
    case error =>
      simp only [execFailError, bind_apply, readCtx_apply, tryM_apply, modifyCtx_apply]
      rcases c.error.error.origCatchable with _ | oc <;> exact ⟨.of_eq (.refl _), (nomatch ·)⟩
    all_goals exact ⟨.of_eq (.refl _), (nomatch ·)⟩
  · exact ⟨.refl c, (nomatch ·)⟩
  · exact ⟨.refl c, (nomatch ·)⟩

end AquaProps.C16
