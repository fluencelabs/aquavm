import Aqua.Codec.Sede
import AquaProps.Lemmas.Sede
/-!
Call arguments (`Vec<JValue>` ↔ msgpack): the reader undoes the writer on well-formed JSON values
(integers in `[-2^63, 2^64)`, finite floats, string / array / object sizes below 2^32, object keys strictly
increasing — the iteration order of a `BTreeMap`).
-/
namespace AquaProps.Lemmas.JArg
open Aqua Aqua.Sede Aqua.MsgPack
open AquaProps.Lemmas.MsgPack (WF WFList WFPairs)
open AquaProps.Lemmas.Sede

mutual
def JWF : JArg → Prop
  | .null => True
  | .bool _ => True
  | .num i => -(2 ^ 63) ≤ i ∧ i < 2 ^ 64
  | .f64 b => b < 2 ^ 64 ∧ f64Finite b = true
  | .str s => (strBytes s).length < 2 ^ 32
  | .arr l => l.length < 2 ^ 32 ∧ JWFList l
  | .obj kvs => kvs.length < 2 ^ 32 ∧ kvs.Pairwise (fun a b => a.1 < b.1) ∧ JWFPairs kvs
def JWFList : List JArg → Prop
  | [] => True
  | a :: as => JWF a ∧ JWFList as
def JWFPairs : List (String × JArg) → Prop
  | [] => True
  | (k, a) :: kvs => (strBytes k).length < 2 ^ 32 ∧ JWF a ∧ JWFPairs kvs
end

theorem insertSorted_last (k : String) (v : JArg) (acc : List (String × JArg)) (h : ∀ e ∈ acc, e.1 < k) :
    insertSorted k v acc = acc ++ [(k, v)] := by
  induction acc with
  | nil => rfl
  | cons e rest ih =>
    obtain ⟨k', v'⟩ := e
    have hlt : k' < k := h (k', v') (by simp)
    have hne : ¬ (k = k') := fun e => String.ne_of_lt hlt e.symm
    have hnlt : ¬ (k < k') := String.lt_asymm hlt
    simp [insertSorted, hne, hnlt, ih fun e he => h e (List.mem_cons_of_mem _ he)]

theorem length_toValList (l : List JArg) : (JArg.toValList l).length = l.length := by
  induction l with
  | nil => rfl
  | cons a as ih => simp [JArg.toValList, ih]

theorem length_toValPairs (l : List (String × JArg)) : (JArg.toValPairs l).length = l.length := by
  induction l with
  | nil => rfl
  | cons a as ih => obtain ⟨k, v⟩ := a; simp [JArg.toValPairs, ih]

mutual
theorem ofVal_toVal (a : JArg) (h : JWF a) : JArg.ofVal a.toVal = some a := by
  match a, h with
  | .null, _ => rfl
  | .bool _, _ => rfl
  | .num _, _ => rfl
  | .f64 b, h => simp [JArg.toVal, JArg.ofVal, h.2]
  | .str s, _ => simp [JArg.toVal, JArg.ofVal, bytesToString_strBytes]
  | .arr l, h => simp [JArg.toVal, JArg.ofVal, ofValList_toValList l h.2]
  | .obj kvs, h =>
    have := ofValPairs_toValPairs kvs h.2.2 h.2.1 [] (by simp)
    simp [JArg.toVal, JArg.ofVal, this]
theorem ofValList_toValList (l : List JArg) (h : JWFList l) : JArg.ofValList (JArg.toValList l) = some l := by
  match l, h with
  | [], _ => rfl
  | a :: as, h => simp [JArg.toValList, JArg.ofValList, ofVal_toVal a h.1, ofValList_toValList as h.2]
theorem ofValPairs_toValPairs (kvs : List (String × JArg)) (h : JWFPairs kvs)
    (hs : kvs.Pairwise (fun a b => a.1 < b.1)) (acc : List (String × JArg))
    (hacc : ∀ e ∈ acc, ∀ e' ∈ kvs, e.1 < e'.1) :
    JArg.ofValPairs (JArg.toValPairs kvs) acc = some (acc ++ kvs) := by
  match kvs, h, hs, hacc with
  | [], _, _, _ => simp [JArg.toValPairs, JArg.ofValPairs]
  | (k, a) :: rest, h, hs, hacc =>
    have hlast : insertSorted k a acc = acc ++ [(k, a)] :=
      insertSorted_last k a acc fun e he => hacc e he (k, a) (by simp)
    have hs' := List.pairwise_cons.mp hs
    have ih := ofValPairs_toValPairs rest h.2.2 hs'.2 (acc ++ [(k, a)]) (by
      intro e he e' he'
      rcases List.mem_append.mp he with he | he
      · exact hacc e he e' (List.mem_cons_of_mem _ he')
      · simp at he; subst he; exact hs'.1 e' he')
    simp [JArg.toValPairs, JArg.ofValPairs, deStrOnly_str, ofVal_toVal a h.2.1, hlast, ih]
end

mutual
theorem wf_toVal (a : JArg) (h : JWF a) : WF a.toVal := by
  match a, h with
  | .null, _ => trivial
  | .bool _, _ => trivial
  | .num _, h => exact h
  | .f64 _, h => exact h.1
  | .str _, h => exact h
  | .arr l, h => exact ⟨by rw [length_toValList]; exact h.1, wfList_toValList l h.2⟩
  | .obj kvs, h => exact ⟨by rw [length_toValPairs]; exact h.1, wfPairs_toValPairs kvs h.2.2⟩
theorem wfList_toValList (l : List JArg) (h : JWFList l) : WFList (JArg.toValList l) := by
  match l, h with
  | [], _ => trivial
  | a :: as, h => exact ⟨wf_toVal a h.1, wfList_toValList as h.2⟩
theorem wfPairs_toValPairs (kvs : List (String × JArg)) (h : JWFPairs kvs) : WFPairs (JArg.toValPairs kvs) := by
  match kvs, h with
  | [], _ => trivial
  | (k, a) :: rest, h => exact ⟨h.1, wf_toVal a h.2.1, wfPairs_toValPairs rest h.2.2⟩
end

end AquaProps.Lemmas.JArg
