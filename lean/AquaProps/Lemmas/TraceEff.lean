import AquaProps.Lemmas.TraceParInv
/-!
What one operation does to the result trace (appends at most one state, rewrites at most the one position
reserved by the FSM it closes or named by `update_generation`), to the FSMs of the folds it does not name, and to
the shape of the trace.
-/
namespace Aqua.Trace
open Aqua Aqua.Data

/-- the one position an operation may rewrite -/
def HOp.rewrites (op : HOp) (h : TraceHandler) : Option Nat :=
  match op with
  | .parEnd .right => h.parStack.head?.map (·.inserterPos)
  | .foldEnd id => (h.fsm id).map (·.inserterPos)
  | .updateGeneration p _ => some p
  | _ => none

/-- the operation is a fold operation of fold `id` -/
def HOp.mentions (id : Nat) : HOp → Bool
  | .foldStart i => i == id
  | .iterStart i _ => i == id
  | .iterEnd i => i == id
  | .backIter i => i == id
  | .genEnd i => i == id
  | .foldEnd i => i == id
  | _ => false

/-- at most one state is appended and at most the position `op.rewrites` is rewritten -/
def Stable (op : HOp) (h h' : TraceHandler) : Prop :=
  ∃ t0 suffix, h'.tr = t0 ++ suffix ∧ t0.length = h.tr.length ∧ suffix.length ≤ 1 ∧
    ∀ i, op.rewrites h ≠ some i → t0[i]? = h.tr[i]?

/-- the effect of one operation, in the three readings the theorems about runs use -/
structure OpEff (op : HOp) (h h' : TraceHandler) : Prop where
  trace : Stable op h h'
  fsm : ∀ id, op.mentions id = false → h'.fsm id = h.fsm id
  shape : op.isPar = false → ParInv h → ShapeEff h h'

namespace OpEff
variable {op : HOp} {h h' : TraceHandler}

theorem trace_same (ht : h'.tr = h.tr) : Stable op h h' :=
  ⟨h.tr, [], by rw [ht, List.append_nil], rfl, Nat.zero_le _, fun _ _ => rfl⟩

theorem trace_push {s : ExecutedState} (ht : h'.tr = h.tr ++ [s]) : Stable op h h' :=
  ⟨h.tr, [s], ht, rfl, Nat.le_refl _, fun _ _ => rfl⟩

theorem trace_rewrite {p : Nat} {x : ExecutedState} (ht : h'.tr = setAt h.tr p x) (hr : op.rewrites h = some p) :
    Stable op h h' :=
  ⟨setAt h.tr p x, [], by rw [ht, List.append_nil], List.length_set, Nat.zero_le _,
    fun i hi => List.getElem?_set_ne fun (hpi : p = i) => hi (hpi ▸ hr)⟩

theorem fsm_of_foldMap (hf : h'.foldMap = h.foldMap) (id : Nat) : h'.fsm id = h.fsm id :=
  congrArg (lookupFsm · id) hf

theorem fsm_other {i : Nat} {v : Option FoldFSM} (hf : ∀ id', h'.fsm id' = if id' = i then v else h.fsm id')
    (id : Nat) (hi : (i == id) = false) : h'.fsm id = h.fsm id := by
  rw [hf id, if_neg (Ne.symm (by simpa using hi))]

theorem quiet (ht : h'.tr = h.tr) (hs : op.isPar = false → h'.parStack = h.parStack) (hf : h'.foldMap = h.foldMap) :
    OpEff op h h' :=
  ⟨trace_same ht, fun id _ => fsm_of_foldMap hf id, fun hp _ =>
    ⟨hs hp, .inl (sizes_of_tr ht), fun id f' hf' => .inl ⟨f', fsm_of_foldMap hf id ▸ hf', rfl⟩⟩⟩

theorem push (s : ExecutedState) (hs : parSizes s = (0, 0)) : OpEff op h (h.pushState s) :=
  ⟨trace_push rfl, fun _ _ => rfl, fun _ _ => ⟨rfl, .inr (hs ▸ sizes_push rfl), fun _ f' hf' => .inl ⟨f', hf', rfl⟩⟩⟩

theorem foldUpdate {i : Nat} {f f' : FoldFSM} {k' : DataKeeper}
    (hm : ∀ id, op.mentions id = false → (i == id) = false) (hf : h.fsm i = some f) (ht : k'.resultTrace = h.tr)
    (hip : f'.inserterPos = f.inserterPos) : OpEff op h (({ h with keeper := k' }).setFold i f') := by
  have hfs := fsm_setFold_of_some (h := { h with keeper := k' }) hf f'
  refine ⟨trace_same ht, fun id hid => fsm_other hfs id (hm id hid), fun _ _ => ⟨rfl, .inl (sizes_of_tr ht), ?_⟩⟩
  intro id f2 hf2
  rw [hfs id] at hf2
  split at hf2
  · next h2 => cases hf2; exact .inl ⟨f, h2 ▸ hf, hip⟩
  · exact .inl ⟨f2, hf2, rfl⟩

theorem of_apply (op : HOp) (e : op.apply h = some h') : OpEff op h h' := by
  cases op with
  | callStart =>
    obtain ⟨_, e⟩ := resOk_map_snd.mp e
    obtain ⟨ht, hs, hf⟩ := meetCallStart_eff e
    exact .quiet ht (fun _ => hs) hf
  | apStart =>
    obtain ⟨_, e⟩ := resOk_map_snd.mp e
    obtain ⟨ht, hs, hf⟩ := meetApStart_eff e
    exact .quiet ht (fun _ => hs) hf
  | canonStart =>
    obtain ⟨_, e⟩ := resOk_map_snd.mp e
    obtain ⟨ht, hs, hf⟩ := meetCanonStart_eff e
    exact .quiet ht (fun _ => hs) hf
  | callEnd c => cases e; exact .push _ rfl
  | apEnd gs => cases e; exact .push _ rfl
  | canonEnd c => cases e; exact .push _ rfl
  | parStart =>
    obtain ⟨f, _, _, _, ht, hf⟩ := meetParStart_eff (resOk_eq_some.mp e)
    exact ⟨trace_push ht, fun id _ => fsm_of_foldMap hf id, fun hp => nomatch hp⟩
  | parEnd t =>
    cases t with
    | left =>
      obtain ⟨_, _, _, _, ht, hf⟩ := meetParSubgraphEnd_left_eff (resOk_eq_some.mp e)
      exact .quiet ht (fun hp => nomatch hp) hf
    | right =>
      obtain ⟨f, rest, hst, _, ht, hf⟩ := meetParSubgraphEnd_right_eff (resOk_eq_some.mp e)
      exact ⟨trace_rewrite ht (by simp [HOp.rewrites, hst]), fun id _ => fsm_of_foldMap hf id, fun hp => nomatch hp⟩
  | foldStart i =>
    obtain ⟨f, ht, hs, hfm, hip, _⟩ := meetFoldStart_eff (resOk_eq_some.mp e)
    have hfs := fsm_of_foldStart hfm
    have hsz : h'.sizes = h.sizes ++ [(0, 0)] := sizes_push ht
    refine ⟨trace_push ht, fun id hid => fsm_other hfs id hid, fun _ _ => ⟨hs, .inr hsz, fun id f2 hf2 => ?_⟩⟩
    rw [hfs id] at hf2
    split at hf2
    · cases hf2; exact .inr ⟨hip, hsz⟩
    · exact .inl ⟨f2, hf2, rfl⟩
  | iterStart i vp =>
    obtain ⟨f, f', k', hf, hk, rfl⟩ := meetIterationStart_eff (resOk_eq_some.mp e)
    obtain ⟨ht, hip, _⟩ := FoldFSM.meetIterationStart_eff hk
    exact .foldUpdate (fun _ hid => hid) hf ht hip
  | iterEnd i =>
    obtain ⟨f, f', hf, hk, rfl⟩ := meetIterationEnd_eff (resOk_eq_some.mp e)
    obtain ⟨_, _, _, _, _, hip, _⟩ := FoldFSM.meetIterationEnd_eff hk
    exact .foldUpdate (k' := h.keeper) (fun _ hid => hid) hf rfl hip
  | backIter i =>
    obtain ⟨f, f', k', hf, hk, rfl⟩ := meetBackIterator_eff (resOk_eq_some.mp e)
    obtain ⟨ht, hip⟩ := FoldFSM.meetBackIterator_frame hk
    exact .foldUpdate (fun _ hid => hid) hf ht hip
  | genEnd i =>
    obtain ⟨f, f', hf, hk, rfl⟩ := meetGenerationEnd_eff (resOk_eq_some.mp e)
    obtain ⟨_, _, _, _, _, _, hip⟩ := FoldFSM.meetGenerationEnd_eff hk
    exact .foldUpdate (k' := h.keeper) (fun _ hid => hid) hf rfl hip
  | foldEnd i =>
    obtain ⟨f, hf, ht, hs, hfm⟩ := meetFoldEnd_eff (resOk_eq_some.mp e)
    have hfs := fsm_of_foldEnd hfm
    refine ⟨trace_rewrite ht (by simp [HOp.rewrites, hf]), fun id hid => fsm_other hfs id hid,
      fun _ g => ⟨hs, .inl ?_, fun id f2 hf2 => ?_⟩⟩
    · -- the reserved position held a leaf and receives a leaf
      rw [sizes_setAt ht]; exact set_eq_self_of_getElem?_eq_some (g.foldUnit i f hf).1
    · rw [hfs id] at hf2
      split at hf2
      · cases hf2
      · exact .inl ⟨f2, hf2, rfl⟩
  | updateGeneration p gen =>
    obtain ⟨hs, hfm, hcase⟩ := updateGeneration_eff (resOk_eq_some.mp e)
    have key : ∃ x, h'.tr = setAt h.tr p x ∧ h.sizes[p]? = some (parSizes x) := by
      rcases hcase with ⟨gens, hp, ht⟩ | ⟨cid, g0, hp, ht⟩ <;>
        exact ⟨_, ht, by simp [TraceHandler.sizes, hp, parSizes]⟩
    obtain ⟨x, ht, hx⟩ := key
    exact ⟨trace_rewrite ht rfl, fun id _ => fsm_of_foldMap hfm id, fun _ _ =>
      ⟨hs, .inl (by rw [sizes_setAt ht]; exact set_eq_self_of_getElem?_eq_some hx),
        fun id f' hf' => .inl ⟨f', fsm_of_foldMap hfm id ▸ hf', rfl⟩⟩⟩

end OpEff

variable {h h' : TraceHandler}

theorem trace_eff (op : HOp) (e : op.apply h = some h') : Stable op h h' :=
  (OpEff.of_apply op e).trace

theorem fsm_neutral {op : HOp} {id : Nat} (hm : op.mentions id = false)
    (e : op.apply h = some h') : h'.fsm id = h.fsm id :=
  (OpEff.of_apply op e).fsm id hm

theorem shapeEff_of_simple (op : HOp) (hop : op.isPar = false) (g : ParInv h)
    (e : op.apply h = some h') : ShapeEff h h' :=
  (OpEff.of_apply op e).shape hop g

theorem length_le_of_apply {op : HOp} (e : op.apply h = some h') :
    h.tr.length ≤ h'.tr.length := by
  obtain ⟨t0, suffix, ht, hl, _, _⟩ := trace_eff op e
  rw [ht, List.length_append, hl]; omega

theorem length_le_of_runOps {ops : List HOp} (e : runOps ops h = some h') :
    h.tr.length ≤ h'.tr.length := by
  induction ops generalizing h with
  | nil => cases e; exact Nat.le_refl _
  | cons op rest ih =>
    obtain ⟨h1, e1, e2⟩ := runOps_cons.mp e
    exact Nat.le_trans (length_le_of_apply e1) (ih e2)

namespace ParInv

theorem apply {op : HOp} (g : ParInv h) (e : op.apply h = some h') : ParInv h' := by
  cases hop : op.isPar with
  | false => exact g.of_shapeEff (shapeEff_of_simple op hop g e)
  | true =>
    cases op with
    | parStart => exact g.parStart (resOk_eq_some.mp e)
    | parEnd t =>
      cases t with
      | left => exact g.parEndLeft (resOk_eq_some.mp e)
      | right => exact g.parEndRight (resOk_eq_some.mp e)
    | _ => cases hop

theorem runOps {ops : List HOp} (g : ParInv h) (e : Trace.runOps ops h = some h') :
    ParInv h' := by
  induction ops generalizing h with
  | nil => cases e; exact g
  | cons op rest ih =>
    obtain ⟨h1, e1, e2⟩ := runOps_cons.mp e
    exact ih (g.apply e1) e2

end ParInv

end Aqua.Trace
