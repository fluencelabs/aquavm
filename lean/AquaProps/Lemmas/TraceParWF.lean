import AquaProps.Lemmas.TraceEff
/-!
Par well-formedness of the result trace for well-bracketed operation sequences.
-/
namespace Aqua.Trace
open Aqua Aqua.Data

/-- operation sequences in which every `meetParStart` is followed by its left subgraph, `meetParSubgraphEnd left`,
its right subgraph and `meetParSubgraphEnd right` (the executor issues both ends also when a subgraph fails
with a catchable error); everything else — also the fold operations, which interleave with pars through
`next` — is unconstrained -/
inductive WB : List HOp → Prop
  | nil : WB []
  | simple (op : HOp) (rest : List HOp) : op.isPar = false → WB rest → WB (op :: rest)
  | par (l r rest : List HOp) : WB l → WB r → WB rest →
      WB (.parStart :: (l ++ .parEnd .left :: (r ++ .parEnd .right :: rest)))

theorem WB.append {a b : List HOp} (ha : WB a) (hb : WB b) : WB (a ++ b) := by
  induction ha with
  | nil => exact hb
  | simple op rest hop _ ih => exact .simple op _ hop ih
  | par l r rest hl hr _ _ _ ih =>
    have := WB.par l r (rest ++ b) hl hr ih
    simpa [List.append_assoc] using this

/-- `h1 … h2` and `h3 … h4` are the two subgraph runs; all that is used of them is that they restore the par stack. -/
theorem par_block {h h1 h2 h3 h4 h5 : TraceHandler} (e1 : h.meetParStart = .ok h1)
    (s2 : h2.parStack = h1.parStack) (e3 : h2.meetParSubgraphEnd .left = .ok h3)
    (s4 : h4.parStack = h3.parStack) (e5 : h4.meetParSubgraphEnd .right = .ok h5) :
    h5.parStack = h.parStack ∧ h1.tr = h.tr ++ [.par 0 0] ∧ h3.tr = h2.tr ∧
      h5.tr = setAt h4.tr h.tr.length
        (.par (truncU32 (h2.tr.length - h1.tr.length)) (truncU32 (h4.tr.length - h3.tr.length))) := by
  obtain ⟨f, hst1, hip, hsaved, ht1, _⟩ := meetParStart_eff e1
  obtain ⟨f', rest', hst2, hst3, ht3, _⟩ := meetParSubgraphEnd_left_eff e3
  obtain ⟨rfl, rfl⟩ := List.cons.inj ((hst1.symm.trans s2.symm).trans hst2)
  obtain ⟨f5, rest5, hst4, hst5, ht5, _⟩ := meetParSubgraphEnd_right_eff e5
  obtain ⟨rfl, rfl⟩ := List.cons.inj ((hst3.symm.trans s4.symm).trans hst4)
  refine ⟨hst5, ht1, ht3, ?_⟩
  have hlen1 : h1.tr.length = h.tr.length + 1 := by rw [ht1, List.length_append]; rfl
  rw [ht5, ht3, hlen1, ← hsaved, ← hip]; rfl

theorem par_block_sizes {h h1 h2 h3 h4 h5 : TraceHandler} {segL segR : List (Nat × Nat)}
    (e1 : h.meetParStart = .ok h1) (s2 : h2.parStack = h1.parStack) (z2 : h2.sizes = h1.sizes ++ segL)
    (e3 : h2.meetParSubgraphEnd .left = .ok h3) (s4 : h4.parStack = h3.parStack) (z4 : h4.sizes = h3.sizes ++ segR)
    (e5 : h4.meetParSubgraphEnd .right = .ok h5) :
    h5.sizes = h.sizes ++ (truncU32 segL.length, truncU32 segR.length) :: (segL ++ segR) := by
  obtain ⟨_, ht1, ht3, ht5⟩ := par_block e1 s2 e3 s4 e5
  have l2 : h2.tr.length = h1.tr.length + segL.length := by
    rw [← sizes_length, z2, List.length_append, sizes_length]
  have l4 : h4.tr.length = h3.tr.length + segR.length := by
    rw [← sizes_length, z4, List.length_append, sizes_length]
  rw [sizes_setAt ht5, z4, sizes_of_tr ht3, z2, sizes_push ht1, l2, l4, Nat.add_sub_cancel_left,
    Nat.add_sub_cancel_left, ← sizes_length, List.append_assoc, List.append_assoc,
    List.set_append_right _ _ (Nat.le_refl _), Nat.sub_self]
  rfl

/-- The appended segment is a forest unless a subgraph size was truncated by `as u32`, which needs more than
`u32::MAX` states: hence the bound on `h'.tr.length`. -/
theorem run_wb {ops : List HOp} (wb : WB ops) :
    ∀ {h h' : TraceHandler}, ParInv h → runOps ops h = some h' →
      ParInv h' ∧ h'.parStack = h.parStack ∧
      ∃ seg, h'.sizes = h.sizes ++ seg ∧ (h'.tr.length ≤ u32Max → ForestS seg) := by
  intro h h' g e
  refine ⟨g.runOps e, ?_⟩
  induction wb generalizing h h' with
  | nil => cases e; exact ⟨rfl, [], (List.append_nil _).symm, fun _ => .nil⟩
  | simple op rest hop _ ih =>
    obtain ⟨h1, e1, e2⟩ := runOps_cons.mp e
    have se := shapeEff_of_simple op hop g e1
    obtain ⟨hst, seg, hseg, hf⟩ := ih (g.apply e1) e2
    refine ⟨hst.trans se.stack, ?_⟩
    rcases se.sizes with hs | hs
    · exact ⟨seg, hs ▸ hseg, hf⟩
    · exact ⟨(0, 0) :: seg, by rw [hseg, hs, List.append_assoc]; rfl, fun hb => (hf hb).leaf⟩
  | par l r rest _ _ _ ihl ihr ihrest =>
    obtain ⟨h1, o1, e⟩ := runOps_cons.mp e
    obtain ⟨h2, e2, e⟩ := runOps_append_some.mp e
    obtain ⟨h3, o3, e⟩ := runOps_cons.mp e
    obtain ⟨h4, e4, e⟩ := runOps_append_some.mp e
    obtain ⟨h5, o5, e⟩ := runOps_cons.mp e
    have e1 := resOk_eq_some.mp o1
    have e3 := resOk_eq_some.mp o3
    have e5 := resOk_eq_some.mp o5
    have g1 := g.parStart e1
    have g3 := (g1.runOps e2).parEndLeft e3
    have g5 := (g3.runOps e4).parEndRight e5
    obtain ⟨s2, segL, z2, fL⟩ := ihl g1 e2
    obtain ⟨s4, segR, z4, fR⟩ := ihr g3 e4
    obtain ⟨s', seg, z', fT⟩ := ihrest g5 e
    have z5 := par_block_sizes e1 s2 z2 e3 s4 z4 e5
    refine ⟨s'.trans (par_block e1 s2 e3 s4 e5).1,
      (truncU32 segL.length, truncU32 segR.length) :: (segL ++ segR) ++ seg, by rw [z', z5, List.append_assoc], ?_⟩
    intro hb
    -- below `u32::MAX` states the casts are exact
    have a5 := length_le_of_runOps e
    have a4 := length_le_of_apply o5
    have a3 := length_le_of_runOps e4
    have a2 := length_le_of_apply o3
    have l' : h'.sizes.length ≤ u32Max := sizes_length h' ▸ hb
    rw [z', z5] at l'
    simp only [List.length_append, List.length_cons] at l'
    have ⟨bL, bR, b2, b4⟩ : segL.length ≤ u32Max ∧ segR.length ≤ u32Max ∧ h2.tr.length ≤ u32Max ∧
        h4.tr.length ≤ u32Max := by omega
    rw [truncU32_of_le bL, truncU32_of_le bR]
    have := ForestS.node segL segR seg (fL b2) (fR b4) (fT hb)
    simpa [List.append_assoc] using this

end Aqua.Trace
