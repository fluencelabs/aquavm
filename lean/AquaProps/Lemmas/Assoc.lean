import Aqua.Exec.Types
/-!
The association lists behind the stores of the model (`Aqua.Exec.upsert` / `Aqua.Exec.lookup`): membership,
keys and lookup after an `upsert`, and membership after the run of upserts that merges two stores (`mergeStores`).
-/
namespace AquaProps
open Aqua.Exec

def keys {β : Type} (l : List (String × β)) : List String := l.map (·.1)

section assoc
variable {β : Type} {l : List (String × β)} {k : String} {v : β} {e : String × β}

theorem mem_keys_of_mem (h : e ∈ l) : e.1 ∈ keys l := List.mem_map.mpr ⟨e, h, rfl⟩

theorem lookup_cons (a : String) (b : β) (l : List (String × β)) (k : String) :
    lookup ((a, b) :: l) k = if a = k then some b else lookup l k := by
  by_cases h : a = k <;> simp [lookup, h]

theorem lookup_cons_self (k : String) (v : β) (l : List (String × β)) : lookup ((k, v) :: l) k = some v := by
  rw [lookup_cons, if_pos rfl]

theorem lookup_mem (h : lookup l k = some v) : (k, v) ∈ l := by
  obtain ⟨e, hf, rfl⟩ := Option.map_eq_some_iff.mp h
  have hk : e.1 = k := by simpa using List.find?_some hf
  exact hk ▸ List.mem_of_find?_eq_some hf

theorem lookup_append (l l' : List (String × β)) (k : String) : lookup (l ++ l') k = (lookup l k).or (lookup l' k) := by
  simp [lookup, List.find?_append, Option.map_or]

theorem lookup_isSome (l : List (String × β)) (k : String) : (lookup l k).isSome = l.any fun x => x.1 == k := by
  rw [Bool.eq_iff_iff, lookup, Option.isSome_map, List.find?_isSome, List.any_eq_true]

theorem lookup_map_snd (g : String → β → β) (l : List (String × β)) (k : String) :
    lookup (l.map fun x => (x.1, g x.1 x.2)) k = (lookup l k).map (g k) := by
  induction l with
  | nil => rfl
  | cons ab rest ih =>
    obtain ⟨a, b⟩ := ab
    by_cases h : a = k <;> simp [lookup_cons, h, ih]

theorem mem_upsert_iff : e ∈ upsert l k v ↔ (e ∈ l ∧ e.1 ≠ k) ∨ e = (k, v) := by
  unfold upsert
  split <;> rename_i h
  · obtain ⟨⟨k0, v0⟩, h0, hk0⟩ := List.any_eq_true.mp h
    have hk0 : k0 = k := by simpa using hk0
    constructor
    · intro he
      obtain ⟨⟨k1, v1⟩, h1, rfl⟩ := List.mem_map.mp he
      by_cases hk : k1 = k
      · exact Or.inr (by simp [hk])
      · exact Or.inl (by simpa [hk] using h1)
    · rintro (⟨h1, hk⟩ | rfl)
      · exact List.mem_map.mpr ⟨e, h1, by obtain ⟨k1, v1⟩ := e; simp at hk; simp [hk]⟩
      · exact List.mem_map.mpr ⟨(k0, v0), h0, by simp [hk0]⟩
  · have hno : ∀ x ∈ l, x.1 ≠ k := fun x hx hk => h (List.any_eq_true.mpr ⟨x, hx, by simp [hk]⟩)
    simp only [List.mem_append, List.mem_singleton]
    exact or_congr_left ⟨fun h1 => ⟨h1, hno e h1⟩, And.left⟩

theorem mem_upsert (h : e ∈ upsert l k v) : e ∈ l ∨ e = (k, v) := (mem_upsert_iff.mp h).imp_left And.left

theorem forall_mem_upsert {P : String × β → Prop} (hl : ∀ e ∈ l, P e) (hv : P (k, v)) : ∀ e ∈ upsert l k v, P e :=
  fun e he => (mem_upsert he).elim (hl e) (· ▸ hv)

theorem mergeStores_induction {Q : List (String × β) → Prop} {prev cur : List (String × β)} (h0 : Q prev)
    (hstep : ∀ l, ∀ x ∈ cur, Q l → Q (upsert l x.1 x.2)) : Q (mergeStores prev cur) := by
  unfold mergeStores
  induction cur generalizing prev with
  | nil => exact h0
  | cons x rest ih => exact ih (hstep _ x List.mem_cons_self h0) fun l y hy => hstep l y (List.mem_cons_of_mem _ hy)

theorem forall_mem_mergeStores {P : String × β → Prop} {prev cur : List (String × β)} (hp : ∀ e ∈ prev, P e)
    (hc : ∀ e ∈ cur, P e) : ∀ e ∈ mergeStores prev cur, P e :=
  mergeStores_induction (Q := fun l => ∀ e ∈ l, P e) hp fun _ x hx hl => forall_mem_upsert hl (hc x hx)

theorem keys_upsert (l : List (String × β)) (k : String) (v : β) :
    keys (upsert l k v) = if l.any (fun x => x.1 == k) then keys l else keys l ++ [k] := by
  unfold upsert keys
  split
  · rw [List.map_map]
    exact List.map_congr_left fun x _ => by dsimp only [Function.comp]; split <;> rfl
  · simp

theorem key_mem_upsert (l : List (String × β)) (k : String) (v : β) : k ∈ keys (upsert l k v) :=
  mem_keys_of_mem (mem_upsert_iff.mpr (Or.inr rfl))

theorem keys_upsert_mono (l : List (String × β)) (k : String) (v : β) {k' : String} (h : k' ∈ keys l) :
    k' ∈ keys (upsert l k v) := by
  rw [keys_upsert]
  split
  · exact h
  · exact List.mem_append_left _ h

theorem lookup_upsert (l : List (String × β)) (k k' : String) (v : β) :
    lookup (upsert l k v) k' = if k' = k then some v else lookup l k' := by
  have hs := lookup_isSome l k
  unfold upsert
  split <;> rename_i h
  · have : (fun ((a, b) : String × β) => if a == k then (a, v) else (a, b)) = fun x => (x.1, if x.1 == k then v else x.2) :=
      funext fun x => by dsimp only; split <;> rfl
    rw [this, lookup_map_snd fun a b => if a == k then v else b]
    by_cases hk : k' = k
    · subst hk
      obtain ⟨w, hw⟩ := Option.isSome_iff_exists.mp (hs.trans h)
      simp [hw]
    · simp [hk]
  · rw [lookup_append, lookup_cons]
    cases hl : lookup l k with
    | some w => rw [hl] at hs; exact absurd hs.symm h
    | none =>
      by_cases hk : k' = k
      · simp [hk, hl]
      · simp [hk, Ne.symm hk, lookup]

theorem lookup_upsert_self (l : List (String × β)) (k : String) (v : β) : lookup (upsert l k v) k = some v := by
  rw [lookup_upsert, if_pos rfl]

end assoc

end AquaProps
