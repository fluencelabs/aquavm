import AquaProps.Lemmas.VerifyData
import AquaProps.Lemmas.SaltedData
/-!
Toy instance used by the non-vacuity examples of C14: a symbolic signature scheme, an (injective) toy
hash — the "CID" of a text is `#` followed by the text — and honest / tampered data of one peer `Q`.

The kernel evaluates a `String` append in quadratic time, and any definitional step on a term that
looks a CID up makes it compare the JSON texts.  So the facts are instances of lemmas about an
arbitrary store, state and signature entry; the only thing evaluated is that the signed messages exist.
-/
namespace AquaProps.C14
open Aqua Aqua.Data Aqua.Exec Aqua.Run Aqua.Crypto

def toyCheck (cid : Cid) (b : Bytes) : Except CidVerificationError Unit :=
  if cid.toUTF8.data.toList = (35 : UInt8) :: b then .ok () else .error (.valueMismatch cid)

def toyEnv : VerifyEnv :=
  VerifyEnv.ofScheme symbolic (fun _ => true) (fun (pk : String) => "peer-" ++ pk) (fun (pk : String) => pk) (fun _ => "") toyCheck

def tetQ : Tetraplet := { peerPk := "peer-Q", serviceId := "s", functionName := "f" }
def aggQ : ServiceResultAgg := ⟨"#1", "h", "#" ++ tetQ.json⟩
def cidQ : Cid := "#" ++ aggQ.json
def ciQ : CidInfo :=
  { values := [("#1", "1")], tetraplets := [("#" ++ tetQ.json, tetQ)], serviceResults := [(cidQ, aggQ)] }
def msgQ (particle : String) : Bytes := (saltedData [cidQ] particle).getD []
/-- honest data: one result of `Q`, signed by `Q` for particle `p1` -/
def curQ : VData toyEnv :=
  { trace := [.call (.executed (.scalar cidQ))], cidInfo := ciQ, signatures := [("Q", SymSig.sig "Q" (msgQ "p1"))] }
/-- the same data with the value swapped under the same CID -/
def curSwapped : VData toyEnv := { curQ with cidInfo := { ciQ with values := [("#1", "2")] } }
/-- the same data carrying the signature `Q` made for another particle -/
def curReplayed : VData toyEnv := { curQ with signatures := [("Q", SymSig.sig "Q" (msgQ "p0"))] }
/-- a forged result attributed to `Q`, signed by the attacker `A` -/
def curForged : VData toyEnv := { curQ with signatures := [("A", SymSig.sig "A" (msgQ "p1"))] }

theorem isOk_unit {ε : Type} {r : Res ε Unit} (h : r.isOk = true) : r = .ok () := by
  cases r with
  | ok u => rfl
  | error e => cases h
  | panic s => cases h

theorem verifyData_single {E : VerifyEnv} {ci : CidInfo} {st : ExecutedState} {q : String} {cid : Cid} (pk : E.PK) (sig : E.Sig)
    (salt : String) (hci : ci.verify E = .ok ()) (hst : stateContribution ci st = .ok (some (q, cid)))
    (hval : E.validate pk = true) :
    verifyData E ⟨[st], ci, [(pk, sig)]⟩ salt = .ok () ↔
      E.toPeerId pk = q ∧ ∃ m, saltedData [cid] salt = some m ∧ E.verifySig pk m sig = true := by
  by_cases hq : E.toPeerId pk = q
  · have hnew : DataVerifier.new E ⟨[st], ci, [(pk, sig)]⟩ = .ok [(q, ⟨pk, sig, [cid]⟩)] := by
      simp [DataVerifier.new, hval, initialGroups, upsert, collectPeersCidsFromTrace, hst, tryPushCid, sortCids, hq]
    simp [VerifyLemmas.verifyData_eq_ok, hnew, hci, VerifyLemmas.dataVerifier_verify_eq_ok, hq]
  · have hnew : DataVerifier.new E ⟨[st], ci, [(pk, sig)]⟩ = .error (.peerIdNotFound q) := by
      simp [DataVerifier.new, hval, initialGroups, upsert, collectPeersCidsFromTrace, hst, tryPushCid, hq]
    simp [VerifyLemmas.verifyData_eq_ok, hnew, hq]

theorem toyCheck_hash (s : String) : toyCheck ("#" ++ s) (strBytes s) = .ok () :=
  if_pos (by simp [strBytes]; rfl)

theorem toy_store_verified : ciQ.verify toyEnv = .ok () := by
  have hv : toyCheck "#1" (strBytes "1") = .ok () := toyCheck_hash "1"
  simp [CidInfo.verify, CidInfo.verifyCanonResultStore, CidInfo.verifyServiceResultStore, VerifyLemmas.andThen_eq_ok,
    VerifyLemmas.allOk_eq_ok, VerifyLemmas.verifyStore_eq_ok, VerifyLemmas.verifyValueStore_eq_ok,
    VerifyLemmas.checkReference_eq_ok, lookup_cons_self, ciQ, toyEnv, VerifyEnv.ofScheme, cidQ, aggQ,
    toyCheck_hash, hv]

theorem toy_attributed : stateContribution curQ.cidInfo (.call (.executed (.scalar cidQ))) = .ok (some ("peer-Q", cidQ)) :=
  VerifyLemmas.stateContribution_call (sr := aggQ) (t := tetQ) rfl (lookup_cons_self ..)
    (lookup_cons_self ..)

theorem toy_verified_iff (k : String) (s : SymSig) (salt : String) :
    verifyData toyEnv { curQ with signatures := [(k, s)] } salt = .ok () ↔
      "peer-" ++ k = "peer-Q" ∧ ∃ m, saltedData [cidQ] salt = some m ∧ s = .sig k m :=
  (verifyData_single (E := toyEnv) k s salt toy_store_verified toy_attributed rfl).trans
    (by simp [toyEnv, VerifyEnv.ofScheme, symbolic])

theorem toy_messages : (saltedData [cidQ] "p1").isSome = true ∧ (saltedData [cidQ] "p0").isSome = true := by
  decide +kernel

theorem msgQ_spec {p : String} (h : (saltedData [cidQ] p).isSome = true) : saltedData [cidQ] p = some (msgQ p) := by
  unfold msgQ
  cases hs : saltedData [cidQ] p with
  | none => rw [hs] at h; cases h
  | some m => rfl

theorem toy_honest_verified : verifyData toyEnv curQ "p1" = .ok () :=
  (toy_verified_iff "Q" _ "p1").mpr ⟨by decide, _, msgQ_spec toy_messages.1, rfl⟩

/-- the signed bytes determine the salt -/
theorem toy_wrong_particle {p p' : String} (hp : (saltedData [cidQ] p).isSome = true) (hne : p ≠ p') :
    (verifyData toyEnv { curQ with signatures := [("Q", .sig "Q" (msgQ p))] } p').isOk = false :=
  Bool.eq_false_iff.mpr fun h => by
    obtain ⟨_, m, hm, hs⟩ := (toy_verified_iff ..).mp (isOk_unit h)
    injection hs with _ hs
    exact hne (SaltedData.saltedData_inj (msgQ_spec hp) (hs ▸ hm)).2

theorem toy_swapped_rejected : (verifyData toyEnv curSwapped "p1").isOk = false := by decide +kernel
theorem toy_replayed_rejected : (verifyData toyEnv curReplayed "p1").isOk = false := toy_wrong_particle toy_messages.2 (by decide)
theorem toy_other_particle_rejected : (verifyData toyEnv curQ "p2").isOk = false := toy_wrong_particle toy_messages.1 (by decide)
/-- no entry of the signature store belongs to the peer the result is attributed to -/
theorem toy_forged_rejected : (verifyData toyEnv curForged "p1").isOk = false :=
  Bool.eq_false_iff.mpr fun h => absurd ((toy_verified_iff "A" _ "p1").mp (isOk_unit h)).1 (by decide)

end AquaProps.C14
