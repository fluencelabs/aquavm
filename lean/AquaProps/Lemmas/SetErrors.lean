import AquaProps.Lemmas.XorFrames
import Aqua.Run.ExecOutcome
/-!
`ExecutionCtx::set_errors` (`context.rs`) and the error object it builds (`errors_utils.rs`,
`instruction_error_definition.rs`): which fields the object has, when `:error:` / `%last_error%` are
written and when they are left alone.  Used by C18.
-/
namespace AquaProps
open Aqua Aqua.Exec Aqua.Air Aqua.Trace Aqua.Json

theorem errorFromRawFields_eq (code : Int) (msg instr : String) (p : Option String) :
    errorFromRawFields code msg instr p =
      .obj ([("error_code", .num code), ("instruction", .str instr), ("message", .str msg)] ++
        match p with | some s => [("peer_id", .str s)] | none => []) := by
  cases p <;> simp [errorFromRawFields, JVal.mkObj, insertSorted, strLt]

theorem errorObj_fields (code : Int) (msg instr : String) (p : Option String) :
    (errorFromRawFields code msg instr p).getField "error_code" = some (.num code) ∧
    (errorFromRawFields code msg instr p).getField "message" = some (.str msg) ∧
    (errorFromRawFields code msg instr p).getField "instruction" = some (.str instr) ∧
    (errorFromRawFields code msg instr p).getField "peer_id" = p.map JVal.str := by
  rw [errorFromRawFields_eq]; cases p <;> simp [JVal.getField]

theorem setErrors_disables (c : Ctx) (e : CatchableErr) (i : String) (t : Option Tetraplet) (b : Bool) :
    (c.setErrors e i t b).error.canBeSet = false := by
  unfold Ctx.setErrors; cases c.error.canBeSet <;> rfl

theorem setErrors_error_keep {c : Ctx} {e : CatchableErr} {i : String} {t : Option Tetraplet} {b : Bool}
    (h : c.error.canBeSet = false) : (c.setErrors e i t b).error = c.error := by
  unfold Ctx.setErrors
  simp only [h]
  exact congrArg (ErrDescriptor.mk _) h.symm

/-- the peer id `set_errors` writes into `:error:` -/
def errorPeerId (c : Ctx) (t : Option Tetraplet) (b : Bool) : Option String :=
  if b then some (match t with | some t => t.peerPk | none => c.currentPeerId) else none

/-- the peer id `set_errors` writes into `%last_error%` -/
def lastErrorPeerId (c : Ctx) (t : Option Tetraplet) (b : Bool) : String :=
  match t with
  | some t => if b then t.peerPk else c.currentPeerId
  | none => c.currentPeerId

theorem setErrors_error_set {c : Ctx} {e : CatchableErr} {i : String} {t : Option Tetraplet} {b : Bool}
    (h : c.error.canBeSet = true) :
    (c.setErrors e i t b).error =
      { error := ⟨errorFromRawFields e.code e.render i (errorPeerId c t b), t, .literal, none⟩, canBeSet := false } := by
  unfold Ctx.setErrors errorPeerId instructionErrorFromExec
  simp only [h, if_true]
  cases t <;> cases b <;> rfl

theorem setErrors_lastError_keep {c : Ctx} {e : CatchableErr} {i : String} {t : Option Tetraplet} {b : Bool}
    (h : c.lastError.canBeSet = false ∨ e.affectsLastError = false) : (c.setErrors e i t b).lastError = c.lastError := by
  unfold Ctx.setErrors
  rcases h with h | h <;> simp [h]

theorem setErrors_lastError_set {c : Ctx} {e : CatchableErr} {i : String} {t : Option Tetraplet} {b : Bool}
    (h : c.lastError.canBeSet = true) (ha : e.affectsLastError = true) :
    (c.setErrors e i t b).lastError =
      { error := ⟨errorFromRawFields e.code e.render i (some (lastErrorPeerId c t b)), t, .literal, none⟩, canBeSet := false } := by
  unfold Ctx.setErrors lastErrorPeerId instructionErrorFromExec
  simp only [h, ha, Bool.and_self, if_true]
  cases t <;> cases b <;> rfl

theorem setErrors_other (c : Ctx) (e : CatchableErr) (i : String) (t : Option Tetraplet) (b : Bool) :
    (c.setErrors e i t b).scalars = c.scalars ∧ (c.setErrors e i t b).currentPeerId = c.currentPeerId ∧
    (c.setErrors e i t b).initPeerId = c.initPeerId ∧ (c.setErrors e i t b).subgraphComplete = c.subgraphComplete := by
  unfold Ctx.setErrors; exact ⟨rfl, rfl, rfl, rfl⟩

end AquaProps
