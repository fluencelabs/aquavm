import Aqua.Crypto.Multibase
/-!
# Positional notation and the base32 round trip

`ofDigits`/`toDigits` are inverse to each other on digit strings of a fixed length, hence the unpadded
base32 decoder of `data-encoding` (as modelled by `Encoding.decodeBase`) inverts its encoder.
-/
namespace AquaProps.Digits
open Aqua Aqua.Crypto.Multibase

theorem snoc_induction {α : Type} {P : List α → Prop} (nil : P [])
    (snoc : ∀ xs x, P xs → P (xs ++ [x])) : ∀ l, P l := by
  have : ∀ l : List α, P l.reverse := by
    intro l
    induction l with
    | nil => exact nil
    | cons x l ih => rw [List.reverse_cons]; exact snoc _ _ ih
  intro l
  have := this l.reverse
  rwa [List.reverse_reverse] at this

theorem toDigitsAux_eq (b k n : Nat) (acc : List Nat) : toDigitsAux b k n acc = toDigits b k n ++ acc := by
  induction k generalizing n acc with
  | zero => simp [toDigitsAux, toDigits]
  | succ k ih =>
    unfold toDigits
    simp only [toDigitsAux]
    rw [ih, ih (n / b) [n % b]]
    simp

theorem toDigits_zero (b n : Nat) : toDigits b 0 n = [] := rfl

theorem toDigits_succ (b k n : Nat) : toDigits b (k + 1) n = toDigits b k (n / b) ++ [n % b] := by
  conv => lhs; unfold toDigits; simp only [toDigitsAux]
  rw [toDigitsAux_eq]

theorem toDigits_length (b k n : Nat) : (toDigits b k n).length = k := by
  induction k generalizing n with
  | zero => rfl
  | succ k ih => rw [toDigits_succ, List.length_append, ih]; rfl

theorem toDigits_lt (b k n : Nat) (hb : 0 < b) : ∀ d ∈ toDigits b k n, d < b := by
  induction k generalizing n with
  | zero => intro d hd; simp [toDigits_zero] at hd
  | succ k ih =>
    intro d hd
    rw [toDigits_succ] at hd
    rcases List.mem_append.mp hd with hd | hd
    · exact ih _ d hd
    · simp only [List.mem_singleton] at hd
      subst hd
      exact Nat.mod_lt _ hb

theorem ofDigits_nil (b : Nat) : ofDigits b [] = 0 := rfl

theorem ofDigits_snoc (b : Nat) (xs : List Nat) (d : Nat) : ofDigits b (xs ++ [d]) = ofDigits b xs * b + d := by
  simp [ofDigits, List.foldl_append]

theorem ofDigits_lt (b : Nat) (ds : List Nat) (h : ∀ d ∈ ds, d < b) : ofDigits b ds < b ^ ds.length := by
  induction ds using snoc_induction with
  | nil => simp [ofDigits_nil]
  | snoc xs x ih =>
    have hx : x < b := h x (by simp)
    have hxs := ih fun d hd => h d (by simp [hd])
    rw [ofDigits_snoc, List.length_append, List.length_singleton, Nat.pow_succ]
    calc ofDigits b xs * b + x < ofDigits b xs * b + b := by omega
      _ = (ofDigits b xs + 1) * b := by rw [Nat.add_mul, Nat.one_mul]
      _ ≤ b ^ xs.length * b := Nat.mul_le_mul_right b hxs

theorem ofDigits_toDigits (b k n : Nat) : ofDigits b (toDigits b k n) = n % b ^ k := by
  induction k generalizing n with
  | zero => simp [toDigits_zero, ofDigits_nil, Nat.mod_one]
  | succ k ih =>
    rw [toDigits_succ, ofDigits_snoc, ih, Nat.pow_succ, Nat.mul_comm (b ^ k) b, Nat.mod_mul]
    rw [Nat.mul_comm (n / b % b ^ k) b]
    omega

theorem toDigits_ofDigits (b : Nat) (ds : List Nat) (h : ∀ d ∈ ds, d < b) :
    toDigits b ds.length (ofDigits b ds) = ds := by
  induction ds using snoc_induction with
  | nil => rfl
  | snoc xs x ih =>
    have hx : x < b := h x (by simp)
    have hxs := ih fun d hd => h d (by simp [hd])
    have hb : 0 < b := by omega
    rw [List.length_append, List.length_singleton, toDigits_succ, ofDigits_snoc]
    have h1 : (ofDigits b xs * b + x) / b = ofDigits b xs := by
      rw [Nat.mul_comm, Nat.mul_add_div hb, Nat.div_eq_of_lt hx, Nat.add_zero]
    have h2 : (ofDigits b xs * b + x) % b = x := by
      rw [Nat.mul_comm, Nat.mul_add_mod, Nat.mod_eq_of_lt hx]
    rw [h1, h2, hxs]

theorem b32_bit : BASE32_NOPAD_LOWER.bit = 5 := rfl
theorem b32_value_symbol : ∀ v, v < 32 → BASE32_NOPAD_LOWER.value (BASE32_NOPAD_LOWER.symbol v) = some v := by decide +kernel
theorem b32_symbol_ne_slash : ∀ v, v < 32 → BASE32_NOPAD_LOWER.symbol v ≠ 47 := by decide +kernel

theorem map_ofNat_toNat (bs : Bytes) : (bs.map UInt8.toNat).map UInt8.ofNat = bs := by
  induction bs with
  | nil => rfl
  | cons b bs ih => simp [ih]

theorem encodeBase_length (bs : Bytes) :
    (BASE32_NOPAD_LOWER.encodeBase bs).length = (8 * bs.length + 4) / 5 := by
  simp [Encoding.encodeBase, toDigits_length, b32_bit]

theorem encodeBase_symbols (bs : Bytes) : ∀ c ∈ BASE32_NOPAD_LOWER.encodeBase bs, c ≠ 47 := by
  intro c hc
  simp only [Encoding.encodeBase, List.mem_map] at hc
  obtain ⟨d, hd, rfl⟩ := hc
  exact b32_symbol_ne_slash d (by
    have := toDigits_lt (2 ^ BASE32_NOPAD_LOWER.bit) _ _ (by rw [b32_bit]; decide) d hd
    rw [b32_bit] at this; exact this)

theorem toNat_lt_256 (bs : Bytes) : ∀ d ∈ bs.map UInt8.toNat, d < 256 := by
  intro d hd
  obtain ⟨b, _, rfl⟩ := List.mem_map.mp hd
  exact b.toNat_lt

theorem decode_encode_base32 (bs : Bytes) :
    BASE32_NOPAD_LOWER.decode (BASE32_NOPAD_LOWER.encodeBase bs) = some bs := by
  generalize hN : ofDigits 256 (bs.map UInt8.toNat) = N
  -- `m` symbols carry the `8 * L` bits of the bytes, padded with `p < 5` zero bits
  have h5 : 8 * bs.length ≤ 5 * ((8 * bs.length + 4) / 5) ∧ 5 * ((8 * bs.length + 4) / 5) < 8 * bs.length + 5 := by omega
  generalize hm : (8 * bs.length + 4) / 5 = m at h5
  have henc : BASE32_NOPAD_LOWER.encodeBase bs =
      (toDigits (2 ^ 5) m (N * 2 ^ (m * 5 - 8 * bs.length))).map BASE32_NOPAD_LOWER.symbol := by
    rw [← hm, ← hN]; rfl
  clear hm
  obtain ⟨p, hpm, hmp, hp⟩ : ∃ p, m * 5 - 8 * bs.length = p ∧ 5 * m = 8 * bs.length + p ∧ p < 5 := ⟨_, rfl, by omega⟩
  rw [hpm] at henc
  have htrail : 5 * m % 8 = p := by rw [hmp, Nat.mul_add_mod]; exact Nat.mod_eq_of_lt (by omega)
  have hdiv : 5 * m / 8 = bs.length := by rw [hmp, Nat.mul_add_div (by decide), Nat.div_eq_of_lt (by omega)]; rfl
  have hp5 : p / 5 = 0 := Nat.div_eq_of_lt hp
  have hM : N * 2 ^ p < (2 ^ 5) ^ m := by
    have hlt := ofDigits_lt 256 _ (toNat_lt_256 bs)
    rw [hN, List.length_map, show (256 : Nat) = 2 ^ 8 by rfl, ← Nat.pow_mul] at hlt
    rw [← Nat.pow_mul, hmp, Nat.pow_add]
    exact Nat.mul_lt_mul_of_lt_of_le hlt (Nat.le_refl _) (Nat.two_pow_pos p)
  show BASE32_NOPAD_LOWER.decodeBase _ = _
  rw [henc]
  unfold Encoding.decodeBase
  have hm := mapM_map_some BASE32_NOPAD_LOWER.symbol BASE32_NOPAD_LOWER.value _
    fun d hd => b32_value_symbol d (toDigits_lt (2 ^ 5) m (N * 2 ^ p) (by decide) d hd)
  simp only [List.length_map, toDigits_length, b32_bit, htrail, hdiv, hp5, bne_self_eq_false, Bool.false_eq_true, if_false,
    hm, ofDigits_toDigits, Nat.mod_eq_of_lt hM,
    Nat.mul_mod_left, Nat.mul_div_cancel _ (Nat.two_pow_pos p), Bool.and_false]
  have := toDigits_ofDigits 256 _ (toNat_lt_256 bs)
  rw [List.length_map, hN] at this
  rw [this, map_ofNat_toNat]

end AquaProps.Digits
