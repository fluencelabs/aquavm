import AquaProps.Lemmas.Rel
/-!
The shape of the `execute!` wrapper of `exec`, what `xor` computes from the results of its branches, and the
*invocation* relation of the interpreter: `Invokes env f i c f' i' c'` says that executing `i` with fuel `f`
from context `c` runs `exec env f' i' c'` as a direct sub-execution.  A fatal result (uncatchable error or
panic) of a sub-execution is the result of every enclosing frame (`fatal_star`).  Used by C18.
-/
namespace AquaProps
open Aqua Aqua.Exec Aqua.Air Aqua.Trace Aqua.Json

def isCall : Instr → Bool
  | .call .. => true
  | _ => false

/-- what `exec` does with the result of the instruction's own `execute` (every instruction but `call`):
a failure updates `%last_error%` / `:error:` through `set_errors` -/
def wrap (i : Instr) (r : Res ExecErr Unit × Ctx) : Res ExecErr Unit × Ctx :=
  match r with
  | (.error e, c) => (.error e, c.setErrorsOf e i)
  | r => r

theorem exec_noncall (env : Env) (fuel : Nat) (i : Instr) (c : Ctx) (hi : isCall i = false) :
    exec env (fuel + 1) i c = wrap i (execInner env fuel i c) := by
  unfold exec
  split
  · cases hi
  · rw [onError_apply]; unfold wrap
    rcases execInner env fuel i c with ⟨_ | _ | _, _⟩ <;> rfl

theorem exec_call (env : Env) (fuel : Nat) (p s f : Value) (args : List Value) (out : CallOutput) :
    exec env (fuel + 1) (.call p s f args out) = execCall env (.call p s f args out) p s f args out := by
  unfold exec; rfl

theorem exec_zero (env : Env) (i : Instr) (c : Ctx) : exec env 0 i c = (.error (.unmodelled "out of fuel"), c) := by
  unfold exec; rfl

@[simp] theorem wrap_fst (i : Instr) (r : Res ExecErr Unit × Ctx) : (wrap i r).1 = r.1 := by
  obtain ⟨_ | _ | _, _⟩ := r <;> rfl

theorem wrap_of_not_catchable (i : Instr) (r : Res ExecErr Unit × Ctx) (h : ∀ e, r.1 ≠ .error (.catchable e)) :
    wrap i r = r := by
  obtain ⟨_ | ⟨e | _ | _⟩ | _, c⟩ := r
  case error.catchable => exact absurd rfl (h e)
  all_goals rfl

theorem wrap_catchable (i : Instr) (e : CatchableErr) (c : Ctx) :
    wrap i (.error (.catchable e), c) = (.error (.catchable e), c.setErrors e i.render none i.logErrorsWithPeerId) := rfl

/-- `flush_subgraph_completeness` -/
@[reducible] def flush (c : Ctx) : Ctx := { c with subgraphComplete := true }

theorem execInner_xor (env : Env) (fuel : Nat) (l r : Instr) (c : Ctx) :
    execInner env fuel (.xor l r) c =
      match exec env fuel l (flush c) with
      | (.error (.catchable e), c1) =>
        let rr := exec env fuel r (xorEnterRight e c1)
        (rr.1, xorLeaveRight rr.1.isOk rr.2)
      | x => x := by
  unfold execInner
  rw [bind_modifyCtx, bind_tryM]
  rcases exec env fuel l (flush c) with ⟨_ | ⟨_ | _ | _⟩ | _, _⟩ <;> rfl

def FatalR {α : Type} (u : UncatchableErr) (r : Res ExecErr α) : Prop :=
  r = .error (.uncatchable u) ∨ ∃ s, r = .panic s

/-- a fatal result keeps being fatal when its value type is changed by a `bind` -/
theorem fatal_retype {α β : Type} {u : UncatchableErr} {r : Res ExecErr α} (h : FatalR u r) :
    (r = .error (.uncatchable u) ∧ FatalR u (Res.error (.uncatchable u) : Res ExecErr β)) ∨
    (∃ s, r = .panic s ∧ FatalR u (Res.panic s : Res ExecErr β)) := by
  rcases h with h | ⟨s, h⟩
  · exact Or.inl ⟨h, Or.inl rfl⟩
  · exact Or.inr ⟨s, h, Or.inr ⟨s, rfl⟩⟩

section fatal
variable {α β : Type} {u : UncatchableErr}

theorem fatal_bind_left {m : M α} {f : α → M β} {c : Ctx} (h : FatalR u (m c).1) : FatalR u ((m >>= f) c).1 := by
  rcases h with h | ⟨s, h⟩
  · rw [bind_of_error (Prod.ext h rfl)]; exact .inl rfl
  · rw [bind_of_panic (Prod.ext h rfl)]; exact .inr ⟨s, rfl⟩

theorem fatal_tryM {m : M α} {k : Res ExecErr α → M β} {c : Ctx}
    (hu : ∀ c', FatalR u (k (.error (.uncatchable u)) c').1) (hp : ∀ s c', FatalR u (k (.panic s) c').1)
    (h : FatalR u (m c).1) : FatalR u ((tryM m >>= k) c).1 := by
  rw [bind_tryM]
  rcases h with h | ⟨s, h⟩ <;> rw [h]
  · exact hu _
  · exact hp s _

theorem fatal_after {m : M α} {k : α → M β} {c : Ctx} (hm : ∀ e, (m c).1 ≠ .error e)
    (hk : ∀ a c', FatalR u (k a c').1) : FatalR u ((m >>= k) c).1 := by
  rw [bind_apply]
  generalize m c = r at hm ⊢
  obtain ⟨a | e | s, c'⟩ := r
  · exact hk a c'
  · exact (hm e rfl).elim
  · exact .inr ⟨s, rfl⟩

end fatal

theorem res_bind_ne_error {ε α β : Type} {x : Res ε α} {f : α → Res ε β} (hx : ∀ e, x ≠ .error e)
    (hf : ∀ a e, f a ≠ .error e) : ∀ e, x.bind f ≠ .error e := by
  cases x with
  | ok a => exact hf a
  | error e => exact absurd rfl (hx e)
  | panic s => intro _ h; cases h

theorem modifyER_ne_error {g : Ctx → ER Ctx} {c : Ctx} (h : ∀ e, g c ≠ .error e) : ∀ e, (modifyER g c).1 ≠ .error e := by
  rw [modifyER_apply]
  cases hg : g c with
  | error e => exact absurd hg (h e)
  | _ => intro _ h; cases h

theorem sm_meetFoldEnd_ne_error {α : Type} (m : SparseMatrix α) : ∀ e, m.meetFoldEnd ≠ .error e := by
  unfold SparseMatrix.meetFoldEnd; split <;> (intro _ h; cases h)

theorem sm_meetNextAfter_ne_error {α : Type} (m : SparseMatrix α) : ∀ e, m.meetNextAfter ≠ .error e := by
  unfold SparseMatrix.meetNextAfter; split <;> (intro _ h; cases h)

theorem foldLeave_ne_error (it : String) (c : Ctx) : ∀ e, foldLeave it c ≠ .error e :=
  res_bind_ne_error
    (res_bind_ne_error (sm_meetFoldEnd_ne_error _) fun _ =>
      res_bind_ne_error (sm_meetFoldEnd_ne_error _) fun _ =>
        res_bind_ne_error (sm_meetFoldEnd_ne_error _) fun _ _ h => nomatch h)
    fun _ _ h => nomatch h

theorem nextAfter_ne_error (c : Ctx) : ∀ e, nextAfter c ≠ .error e :=
  res_bind_ne_error
    (res_bind_ne_error (sm_meetNextAfter_ne_error _) fun _ =>
      res_bind_ne_error (sm_meetNextAfter_ne_error _) fun _ =>
        res_bind_ne_error (sm_meetNextAfter_ne_error _) fun _ _ h => nomatch h)
    fun _ _ h => nomatch h

theorem newLeave_ok (name : String) (c : Ctx) : ∃ b c', newLeave name c = .ok (b, c') := ⟨_, _, rfl⟩

theorem newLeaveCanon_ok (name : String) (c : Ctx) : ∃ b c', newLeaveCanon name c = .ok (b, c') := ⟨_, _, rfl⟩

/-- `Invokes env f i c f' i' c'`: executing instruction `i` with fuel `f` from context `c` runs
`exec env f' i' c'` as a direct sub-execution (the premises are the model's own conditions for reaching
that sub-execution).  Frames: both branches of `xor`, `seq`, `par`; bodies of `match`, `mismatch`, scalar
`fold`, `new` (scalar, stream, canon stream); the re-entered body and the last instruction of `next`.
Not covered: the bodies of stream folds (`execFoldIterations`). -/
inductive Invokes (env : Env) : Nat → Instr → Ctx → Nat → Instr → Ctx → Prop
  | xorLeft (f : Nat) (l r : Instr) (c : Ctx) : Invokes env (f + 1) (.xor l r) c f l (flush c)
  | xorRight (f : Nat) (l r : Instr) (c c1 : Ctx) (e : CatchableErr)
      (hl : exec env f l (flush c) = (.error (.catchable e), c1)) :
      Invokes env (f + 1) (.xor l r) c f r (xorEnterRight e c1)
  | seqLeft (f : Nat) (l r : Instr) (c : Ctx) : Invokes env (f + 1) (.seq l r) c f l (flush c)
  | seqRight (f : Nat) (l r : Instr) (c c1 : Ctx)
      (hl : exec env f l (flush c) = (.ok (), c1)) (hc : c1.subgraphComplete = true) :
      Invokes env (f + 1) (.seq l r) c f r c1
  | parLeft (f : Nat) (l r : Instr) (c c1 : Ctx)
      (hs : liftTH' (.par l r) (fun th => th.meetParStart) c = (.ok (), c1)) :
      Invokes env (f + 1) (.par l r) c f l { c1 with subgraphComplete := !(isNext l) }
  | parRight (f : Nat) (l r : Instr) (c c1 c2 : Ctx) (x : Option ExecErr × Bool)
      (hs : liftTH' (.par l r) (fun th => th.meetParStart) c = (.ok (), c1))
      (hl : execSubgraph env f (.par l r) l .left c1 = (.ok x, c2)) :
      Invokes env (f + 1) (.par l r) c f r { c2 with subgraphComplete := !(isNext r) }
  | matchBody (f : Nat) (a b : Value) (body : Instr) (c : Ctx) (hm : areMatchableEq c a b = .ok true) :
      Invokes env (f + 1) (.match_ a b body) c f body c
  | mismatchBody (f : Nat) (a b : Value) (body : Instr) (c : Ctx) (hm : areMatchableEq c a b = .ok false) :
      Invokes env (f + 1) (.mismatch a b body) c f body c
  | foldBody (f : Nat) (iterable : Value) (iterator : String) (body : Instr) (last : Option Instr) (c c1 : Ctx)
      (itv : IterableValue) (hi : createScalarIterable c iterable = .ok (some itv))
      (he : foldEnter iterator { iterable := itv, iterableType := .scalar, instrHead := body, lastInstrHead := last } c = .ok c1) :
      Invokes env (f + 1) (.foldScalar iterable iterator body last) c f body c1
  | nextBody (f : Nat) (iterator : String) (c c1 c2 c3 : Ctx) (fs0 fs : FoldState) (item : JVal × Tetraplet × Nat × Provenance)
      (hf0 : c.scalars.getIterable iterator = .ok fs0)
      (h1 : maybeTH (.next iterator) fs0 (fun id th => th.meetIterationEnd id) c = (.ok (), c1))
      (ha : nextAdvance iterator c1 = .ok (some fs, c2))
      (hp : fs.iterable.peekExpect = .ok item)
      (h2 : maybeTH (.next iterator) fs (fun id th => th.meetIterationStart id item.2.2.1) c2 = (.ok (), c3)) :
      Invokes env (f + 1) (.next iterator) c f fs.instrHead c3
  | nextLast (f : Nat) (iterator : String) (c c1 c2 c3 : Ctx) (fs0 fs : FoldState) (li : Instr)
      (hf0 : c.scalars.getIterable iterator = .ok fs0)
      (h1 : maybeTH (.next iterator) fs0 (fun id th => th.meetIterationEnd id) c = (.ok (), c1))
      (ha : nextAdvance iterator c1 = .ok (none, c2))
      (h2 : maybeTH (.next iterator) fs0 (fun id th => th.meetBackIterator id) c2 = (.ok (), c3))
      (hf : c3.scalars.getIterable iterator = .ok fs) (hl : fs.lastInstrHead = some li) :
      Invokes env (f + 1) (.next iterator) c f li (flush c3)
  | newBody (f : Nat) (name : String) (body : Instr) (sl sr : Nat) (c : Ctx) :
      Invokes env (f + 1) (.new (.scalar name) body sl sr) c f body { c with scalars := c.scalars.meetNewStartScalar name }
  | newCanonBody (f : Nat) (name : String) (body : Instr) (sl sr : Nat) (c : Ctx) :
      Invokes env (f + 1) (.new (.canon name) body sl sr) c f body { c with scalars := c.scalars.meetNewStartCanon name }
  | newStreamBody (f : Nat) (name : String) (body : Instr) (sl sr : Nat) (c : Ctx) :
      Invokes env (f + 1) (.new (.stream name) body sl sr) c f body (c.streamScopeStart name sl sr)

inductive InvokesStar (env : Env) : Nat → Instr → Ctx → Nat → Instr → Ctx → Prop
  | refl (f : Nat) (i : Instr) (c : Ctx) : InvokesStar env f i c f i c
  | step {f f1 f2 : Nat} {i i1 i2 : Instr} {c c1 c2 : Ctx} :
      Invokes env f i c f1 i1 c1 → InvokesStar env f1 i1 c1 f2 i2 c2 → InvokesStar env f i c f2 i2 c2

theorem fatal_of_inner {env : Env} {f : Nat} {i : Instr} {c : Ctx} {u : UncatchableErr} (hi : isCall i = false)
    (h : FatalR u (execInner env f i c).1) : FatalR u (exec env (f + 1) i c).1 := by
  rw [exec_noncall _ _ _ _ hi, wrap_fst]; exact h

theorem fatal_execSubgraph {env : Env} {f : Nat} {par sub : Instr} {t : SubgraphType} {c : Ctx} {u : UncatchableErr}
    (h : FatalR u (exec env f sub { c with subgraphComplete := !(isNext sub) }).1) :
    FatalR u (execSubgraph env f par sub t c).1 := by
  rw [execSubgraph, bind_modifyCtx]
  exact fatal_tryM (fun _ => .inl rfl) (fun s _ => .inr ⟨s, rfl⟩) h

theorem fatal_step {env : Env} {f f' : Nat} {i i' : Instr} {c c' : Ctx} {u : UncatchableErr}
    (hinv : Invokes env f i c f' i' c') (h : FatalR u (exec env f' i' c').1) : FatalR u (exec env f i c).1 := by
  cases hinv with (refine fatal_of_inner rfl ?_; unfold execInner)
  | xorLeft =>
    rw [bind_modifyCtx]
    exact fatal_tryM (fun _ => .inl rfl) (fun s _ => .inr ⟨s, rfl⟩) h
  | xorRight _ _ _ _ _ _ hl =>
    rw [bind_modifyCtx, bind_tryM, hl]
    exact h
  | seqLeft =>
    rw [bind_modifyCtx]
    exact fatal_bind_left h
  | seqRight _ _ _ _ _ hl hc =>
    rw [bind_modifyCtx, bind_of_ok hl, bind_readCtx]
    simp only [hc, if_true]
    exact h
  | parLeft _ _ _ _ _ hs =>
    rw [bind_of_ok hs]
    exact fatal_bind_left (fatal_execSubgraph h)
  | parRight _ _ _ _ _ _ _ hs hl =>
    rw [bind_of_ok hs, bind_of_ok hl]
    exact fatal_bind_left (fatal_execSubgraph h)
  | matchBody _ _ _ _ _ hm | mismatchBody _ _ _ _ _ hm =>
    rw [bind_of_ok (joinable_of_ok (readER_of_ok hm))]
    exact h
  | foldBody _ _ _ _ _ _ _ _ hi he =>
    rw [bind_of_ok (joinable_of_ok (readER_of_ok hi))]
    dsimp only
    rw [bind_of_ok (modifyER_of_ok he)]
    exact fatal_tryM (fun _ => fatal_after (modifyER_ne_error (foldLeave_ne_error _ _)) fun _ _ => .inl rfl)
      (fun s _ => fatal_after (modifyER_ne_error (foldLeave_ne_error _ _)) fun _ _ => .inr ⟨s, rfl⟩) h
  | nextBody _ _ _ _ _ _ _ _ _ hf0 h1 ha hp h2 =>
    rw [bind_of_ok (readER_of_ok hf0), bind_of_ok h1, bind_of_ok (stateER_of_ok ha)]
    dsimp only
    rw [bind_of_ok (readER_of_ok hp), bind_of_ok h2]
    exact fatal_tryM (fun _ => fatal_after (modifyER_ne_error (nextAfter_ne_error _)) fun _ _ => .inl rfl)
      (fun s _ => fatal_after (modifyER_ne_error (nextAfter_ne_error _)) fun _ _ => .inr ⟨s, rfl⟩) h
  | nextLast _ _ _ _ _ _ _ _ _ hf0 h1 ha h2 hf hl =>
    rw [bind_of_ok (readER_of_ok hf0), bind_of_ok h1, bind_of_ok (stateER_of_ok ha)]
    dsimp only
    rw [bind_of_ok h2, bind_of_ok (readER_of_ok hf)]
    simp only [hl]
    exact h
  | newBody | newCanonBody | newStreamBody =>
    dsimp only
    rw [bind_modifyCtx]
    -- the clean-up after the body (`newLeave`, `newLeaveCanon`, the stream epilogue under its own `tryM`) always
    -- returns: the continuation computes through it
    exact fatal_tryM (fun _ => .inl rfl) (fun s _ => .inr ⟨s, rfl⟩) h

theorem fatal_star {env : Env} {f f' : Nat} {i i' : Instr} {c c' : Ctx} {u : UncatchableErr}
    (hinv : InvokesStar env f i c f' i' c') (h : FatalR u (exec env f' i' c').1) : FatalR u (exec env f i c).1 := by
  induction hinv with
  | refl => exact h
  | step h1 _ ih => exact fatal_step h1 (ih h)

end AquaProps
