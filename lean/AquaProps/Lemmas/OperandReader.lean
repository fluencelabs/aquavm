import Aqua.Air.OperandReader
/-! Lemmas for C28_operands: the operand reader reads back what `valueText` prints. -/
namespace AquaProps.Lemmas.OperandReader
open Aqua.Air Aqua.Air.Beautifier Aqua.Air.OperandReader

theorem natText_digits (n : Nat) : ∀ c ∈ natText n, c.isDigit = true :=
  fun _ hc => Nat.isDigit_of_mem_toDigits (by decide) (by decide) hc

theorem natText_ne_nil (n : Nat) : natText n ≠ [] := Nat.toDigits_ne_nil

theorem natText_isEmpty (n : Nat) : (natText n).isEmpty = false := by
  simpa using natText_ne_nil n

theorem natText_all_digit (n : Nat) : (natText n).all Char.isDigit = true := List.all_eq_true.mpr (natText_digits n)

theorem parseNat_natText (n : Nat) : parseNat? (natText n) = some n := by
  rw [parseNat?, natText_isEmpty, natText_all_digit]
  simp only [Bool.not_false, Bool.and_self, if_true, natText, Nat.ofDigitChars_ten_toDigits]

theorem parseInt_intText (z : Int) : parseInt? (intText z) = some z := by
  cases z with
  | ofNat n =>
    simp only [intText]
    cases h : natText n with
    | nil => exact absurd h (natText_ne_nil n)
    | cons c cs =>
      have hc : c.isDigit = true := natText_digits n c (by simp [h])
      have hne : c ≠ '-' := by intro e; subst e; simp [Char.isDigit] at hc
      have : parseInt? (c :: cs) = (parseNat? (c :: cs)).map Int.ofNat := by
        unfold parseInt?
        split
        · rename_i heq; simp at heq; exact absurd heq.1 hne
        · rfl
      rw [this, ← h, parseNat_natText]
      rfl
  | negSucc n =>
    simp only [intText, parseInt?, parseNat_natText]
    congr 1

theorem nameChar_ne (c : Char) (h : nameChar c = true) (x : Char) (hx : nameChar x = false) : c ≠ x := by
  intro e; subst e; simp [h] at hx

theorem bare_cases (t : Text) (h : bare t = true) : t ≠ [] ∧ ∀ c ∈ t, nameChar c = true := by
  unfold bare at h
  simp at h
  exact ⟨by intro e; simp [e] at h, h.2⟩

theorem digit_nameChar (c : Char) (h : c.isDigit = true) : nameChar c = true := by
  simp [nameChar, Char.isAlphanum, h]

theorem accessorText_no_dot (a : Accessor) (h : accessorWF a = true) : ∀ c ∈ accessorText a, c ≠ '.' := by
  cases a with
  | arrayAccess i =>
    intro c hc
    simp only [accessorText, List.mem_cons, List.mem_append, List.not_mem_nil, or_false] at hc
    rcases hc with (rfl | hc) | rfl
    · decide
    · exact nameChar_ne c (digit_nameChar c (natText_digits i c hc)) '.' (by decide)
    · decide
  | fieldByName n =>
    intro c hc
    exact nameChar_ne c ((bare_cases _ h).2 c hc) '.' (by decide)
  | fieldByScalar s =>
    intro c hc
    simp only [accessorWF, Bool.and_eq_true] at h
    simp only [accessorText, List.mem_cons, List.mem_append, List.not_mem_nil, or_false] at hc
    rcases hc with (rfl | hc) | rfl
    · decide
    · exact nameChar_ne c ((bare_cases _ h.1).2 c hc) '.' (by decide)
    · decide

theorem parseAccessor_bracket (rest : Text) :
    parseAccessor ('[' :: rest) =
      (match rest.getLast? with
       | some ']' =>
         if rest.dropLast.isEmpty then none
         else if rest.dropLast.all Char.isDigit then some (.arrayAccess (Nat.ofDigitChars 10 rest.dropLast 0))
         else some (.fieldByScalar (String.ofList rest.dropLast))
       | _ => none) := rfl

theorem parseAccessor_text (a : Accessor) (h : accessorWF a = true) : parseAccessor (accessorText a) = some a := by
  cases a with
  | arrayAccess i =>
    have h3 : Nat.ofDigitChars 10 (natText i) 0 = i := Nat.ofDigitChars_ten_toDigits
    simp only [accessorText, List.cons_append, parseAccessor_bracket, List.getLast?_concat, List.dropLast_concat,
      natText_isEmpty, natText_all_digit, h3, Bool.false_eq_true, if_false, if_true]
  | fieldByName n =>
    obtain ⟨hne, hall⟩ := bare_cases _ h
    simp only [accessorText]
    cases hn : n.toList with
    | nil => exact absurd hn hne
    | cons c cs =>
      have hc : c ≠ '[' := nameChar_ne c (hall c (by simp [hn])) '[' (by decide)
      unfold parseAccessor
      split
      · rename_i heq; simp at heq
      · rename_i heq; simp at heq; exact absurd heq.1 hc
      · rw [← hn]; simp
  | fieldByScalar s =>
    simp only [accessorWF, Bool.and_eq_true, Bool.not_eq_true'] at h
    obtain ⟨hne, _⟩ := bare_cases _ h.1
    have h1 : s.toList.isEmpty = false := by
      cases hh : s.toList with
      | nil => exact absurd hh hne
      | cons _ _ => rfl
    simp only [accessorText, List.cons_append, parseAccessor_bracket, List.getLast?_concat, List.dropLast_concat, h1, h.2,
      Bool.false_eq_true, if_false, String.ofList_toList]

theorem splitDots_cons_ne (acc : Text) (c : Char) (cs : Text) (h : c ≠ '.') :
    splitDots acc (c :: cs) = splitDots (c :: acc) cs := by
  simp [splitDots]

theorem splitDots_append (acc p rest : Text) (h : ∀ c ∈ p, c ≠ '.') :
    splitDots acc (p ++ rest) = splitDots (p.reverse ++ acc) rest := by
  induction p generalizing acc with
  | nil => rfl
  | cons c cs ih =>
    have hc : c ≠ '.' := h c (by simp)
    have : splitDots acc (c :: (cs ++ rest)) = splitDots (c :: acc) (cs ++ rest) := splitDots_cons_ne acc c _ hc
    simp only [List.cons_append, this, ih (c :: acc) (fun x hx => h x (by simp [hx]))]
    simp

theorem splitDots_join (p : Text) (ps : List Text) (h : ∀ q ∈ p :: ps, ∀ c ∈ q, c ≠ '.') :
    ∀ acc, splitDots acc (joinText ['.'] (p :: ps)) = (acc.reverse ++ p) :: ps := by
  induction ps generalizing p with
  | nil =>
    intro acc
    have := splitDots_append acc p [] (h p (by simp))
    simp only [List.append_nil] at this
    simp [joinText, this, splitDots]
  | cons q qs ih =>
    intro acc
    have hj : joinText ['.'] (p :: q :: qs) = p ++ ('.' :: joinText ['.'] (q :: qs)) := by simp [joinText]
    rw [hj, splitDots_append acc p _ (h p (by simp))]
    have ih' := ih q (fun x hx => h x (by simp [hx])) []
    simp only [List.reverse_nil, List.nil_append] at ih'
    simp [splitDots, ih']

theorem expectPre_append (pre t : Text) : expectPre pre (pre ++ t) = some t := by
  simp [expectPre]

theorem parseLambda_text (l : Lambda) (h : lambdaWF l = true) : parseLambda (lambdaText l) = some l := by
  cases l with
  | functorLength => decide
  | path as =>
    simp only [lambdaWF, Bool.and_eq_true, List.all_eq_true] at h
    obtain ⟨hne, hall⟩ := h
    cases as with
    | nil => simp at hne
    | cons a as =>
      have hsplit := splitDots_join (accessorText a) (as.map accessorText)
        (by
          intro p hp
          rw [← List.map_cons] at hp
          obtain ⟨x, hx, rfl⟩ := List.mem_map.mp hp
          exact accessorText_no_dot x (hall x hx)) []
      simp only [List.reverse_nil, List.nil_append] at hsplit
      have hm := Aqua.mapM_map_some accessorText parseAccessor (a :: as) fun x hx => parseAccessor_text x (hall x hx)
      simp only [List.map_cons] at hm
      have hne' : lambdaText (.path (a :: as)) ≠ ".length".toList := by simp [lambdaText]
      unfold parseLambda
      rw [if_neg hne']
      simp only [lambdaText, expectPre_append, Option.bind_some, List.map_cons, hsplit, hm]
      rfl

theorem lambdaText_head (l : Lambda) : ∃ t, lambdaText l = '.' :: t := by
  cases l with
  | functorLength => exact ⟨_, rfl⟩
  | path as => exact ⟨_, rfl⟩

/-- a character that occurs neither in a number nor in `true` / `false` -/
def alien (c : Char) : Bool :=
  !c.isDigit && c != '.' && c != '-' && !"true".toList.contains c && !"false".toList.contains c

theorem parseNat_none_of_nondigit (cs : Text) (c : Char) (hc : c ∈ cs) (hd : c.isDigit = false) : parseNat? cs = none := by
  unfold parseNat?
  have : cs.all Char.isDigit = false := by
    rw [Bool.eq_false_iff]; intro h
    have := List.all_eq_true.mp h c hc
    simp [hd] at this
  simp [this]

theorem parseInt_none_of_bad (cs : Text) (c : Char) (hc : c ∈ cs) (hd : c.isDigit = false) (hm : c ≠ '-') :
    parseInt? cs = none := by
  unfold parseInt?
  split
  · rename_i r
    have : c ∈ r := by simpa [hm] using hc
    simp [parseNat_none_of_nondigit r c this hd]
  · simp [parseNat_none_of_nondigit cs c hc hd]

theorem mem_unsigned (cs : Text) (c : Char) (hc : c ∈ cs) (hm : c ≠ '-') : c ∈ unsigned cs := by
  unfold unsigned
  split
  · simpa [hm] using hc
  · exact hc

theorem unsigned_subset (cs : Text) : ∀ c ∈ unsigned cs, c ∈ cs := by
  intro c hc
  unfold unsigned at hc
  split at hc
  · simp [hc]
  · exact hc

theorem isFloatText_false_of_bad (cs : Text) (c : Char) (hc : c ∈ cs) (hd : c.isDigit = false) (hdot : c ≠ '.')
    (hm : c ≠ '-') : isFloatText cs = false := by
  unfold isFloatText
  have : (unsigned cs).all (fun c => c.isDigit || c == '.') = false := by
    rw [Bool.eq_false_iff]; intro h
    have := List.all_eq_true.mp h c (mem_unsigned cs c hc hm)
    simp [hd, hdot] at this
  rw [this, Bool.false_and]

theorem floatShape_dot (body : Text) (h : floatShape body = true) : '.' ∈ body := by
  unfold floatShape at h
  split at h
  · rename_i fp heq
    have : '.' ∈ body.dropWhile Char.isDigit := by rw [heq]; simp
    exact (List.dropWhile_sublist _).subset this
  · simp at h

theorem isFloatText_false_of_no_dot (cs : Text) (h : '.' ∉ cs) : isFloatText cs = false := by
  unfold isFloatText
  have : floatShape (unsigned cs) = false := by
    rw [Bool.eq_false_iff]; intro hf
    exact h (unsigned_subset cs _ (floatShape_dot _ hf))
  rw [this, Bool.and_false]

theorem lambdaText_alien (l : Lambda) : ∃ c ∈ lambdaText l, alien c = true := by
  cases l with
  | functorLength => exact ⟨'n', by decide, by decide⟩
  | path as => exact ⟨'$', by simp [lambdaText], by decide⟩

theorem lambdaText_dot_mem (l : Lambda) : '.' ∈ lambdaText l := by
  obtain ⟨t, ht⟩ := lambdaText_head l
  simp [ht]

def varOf (k : VarKind) (n : String) : Option Lambda → Value
  | none => match k with | .scalar => .scalar n | .canon => .canon n | .canonMap => .canonMap n
  | some l => match k with | .scalar => .scalarWL n l | .canon => .canonWL n l | .canonMap => .canonMapWL n l

theorem parseVariable_text (n : String) (k : VarKind) (ol : Option Lambda) (hd : '.' ∉ n.toList)
    (hk : varKind n.toList = some k) (hl : optLambdaWF ol = true) :
    parseVariable (n.toList ++ optLambdaText ol) = some (varOf k n ol) := by
  have h1 : ∀ x ∈ n.toList, (x != '.') = true := fun x hx => bne_iff_ne.mpr fun e => hd (e ▸ hx)
  unfold parseVariable
  rw [List.takeWhile_append_of_pos h1, List.dropWhile_append_of_pos h1]
  cases ol with
  | none =>
    simp only [optLambdaText, List.takeWhile_nil, List.dropWhile_nil, List.append_nil, hk, Option.bind_some, List.isEmpty_nil,
      if_true, String.ofList_toList]
    cases k <;> rfl
  | some l =>
    obtain ⟨t, ht⟩ := lambdaText_head l
    have hp := parseLambda_text l hl
    simp only [optLambdaText, ht] at hp ⊢
    simp only [bne_self_eq_false, Bool.false_eq_true, not_false_eq_true, List.takeWhile_cons_of_neg, List.dropWhile_cons_of_neg,
      List.append_nil, hk, Option.bind_some, List.isEmpty_cons, if_false, hp, Option.map_some, String.ofList_toList]
    cases k <;> rfl

theorem varKind_sigil (c : Char) (t : Text) (h : '%' ∉ t) :
    varKind (c :: t) = if c = '#' then some .canon else if c = '$' ∨ c = '%' then none else some .scalar := by
  have ht : ∀ m, t ≠ '%' :: m := fun m e => h (e ▸ List.mem_cons_self)
  unfold varKind
  split <;> simp_all

theorem bare_no (n : Text) (h : bare n = true) (x : Char) (hx : nameChar x = false) : x ∉ n := by
  intro hm
  have := (bare_cases n h).2 x hm
  simp [hx] at this

theorem parsePlain_variable (cs : Text) (c : Char) (hc : c ∈ cs) (ha : alien c = true) : parsePlain cs = parseVariable cs := by
  simp only [alien, Bool.and_eq_true, Bool.not_eq_true', bne_iff_ne, ne_eq, List.contains_eq_mem,
    decide_eq_false_iff_not] at ha
  obtain ⟨⟨⟨⟨hd, hdot⟩, hm⟩, ht⟩, hf⟩ := ha
  unfold parsePlain
  have ne (lit : Text) (hl : c ∉ lit) : cs ≠ lit := fun e => hl (e ▸ hc)
  rw [if_neg (ne _ ht), if_neg (ne _ hf), parseInt_none_of_bad cs c hc hd hm]
  simp only [isFloatText_false_of_bad cs c hc hd hdot hm, Bool.false_eq_true, if_false]

theorem parseValue_plain (c : Char) (t : Text) (h1 : c ≠ '"') (h2 : c ≠ '%') (h3 : c ≠ ':') (h4 : c ≠ '[') :
    parseValue (c :: t) = parsePlain (c :: t) := by
  simp [parseValue, h1, h2, h3, h4]

theorem parseValue_scalar (n : String) (ol : Option Lambda) (h : scalarNameWF n.toList = true) (hl : optLambdaWF ol = true) :
    parseValue (n.toList ++ optLambdaText ol) = some (varOf .scalar n ol) := by
  simp only [scalarNameWF, Bool.and_eq_true, Option.isNone_iff_eq_none, bne_iff_ne, ne_eq] at h
  obtain ⟨⟨⟨hb, hint⟩, ht⟩, hf⟩ := h
  obtain ⟨hne, hall⟩ := bare_cases _ hb
  have hd := bare_no _ hb '.' (by decide)
  rw [← parseVariable_text n .scalar ol hd ?hk hl]
  case hk =>
    cases hn : n.toList with
    | nil => exact absurd hn hne
    | cons c t =>
      have hc := hall c (by simp [hn])
      rw [varKind_sigil c t fun hm => bare_no _ hb '%' (by decide) (by simp [hn, hm]),
        if_neg (nameChar_ne c hc _ (by decide)), if_neg]
      exact fun h => h.elim (nameChar_ne c hc _ (by decide)) (nameChar_ne c hc _ (by decide))
  cases hn : n.toList with
  | nil => exact absurd hn hne
  | cons c t =>
    have hc := hall c (by simp [hn])
    rw [List.cons_append, parseValue_plain c _ (nameChar_ne c hc _ (by decide)) (nameChar_ne c hc _ (by decide))
      (nameChar_ne c hc _ (by decide)) (nameChar_ne c hc _ (by decide)), ← List.cons_append, ← hn]
    cases ol with
    | none =>
      simp only [optLambdaText, List.append_nil, parsePlain, if_neg ht, if_neg hf, hint,
        isFloatText_false_of_no_dot _ hd, Bool.false_eq_true, if_false]
    | some l =>
      obtain ⟨b, hbm, hb⟩ := lambdaText_alien l
      exact parsePlain_variable _ b (List.mem_append_right _ hbm) hb

theorem canonName_cases (n : Text) (h : canonNameWF n = true) :
    ∃ m, n = '#' :: m ∧ '%' ∉ m ∧ '.' ∉ m := by
  unfold canonNameWF at h
  split at h
  · rename_i m
    exact ⟨'$' :: m, rfl, List.not_mem_cons_of_ne_of_not_mem (by decide) (bare_no m h '%' (by decide)),
      List.not_mem_cons_of_ne_of_not_mem (by decide) (bare_no m h '.' (by decide))⟩
  · rename_i m _
    exact ⟨m, rfl, bare_no m h '%' (by decide), bare_no m h '.' (by decide)⟩
  · simp at h

theorem parseValue_canon (n : String) (ol : Option Lambda) (h : canonNameWF n.toList = true) (hl : optLambdaWF ol = true) :
    parseValue (n.toList ++ optLambdaText ol) = some (varOf .canon n ol) := by
  obtain ⟨m, hn, hp, hd⟩ := canonName_cases _ h
  rw [← parseVariable_text n .canon ol (hn ▸ List.not_mem_cons_of_ne_of_not_mem (by decide) hd)
      (by rw [hn, varKind_sigil _ _ hp]; rfl) hl,
    hn, List.cons_append, parseValue_plain '#' _ (by decide) (by decide) (by decide) (by decide),
    parsePlain_variable _ '#' (by simp) (by decide)]

theorem canonMapName_cases (n : Text) (h : canonMapNameWF n = true) :
    ∃ c m, n = c :: '%' :: m ∧ (c = '#' ∨ c = '$' ∨ c = '%' ∨ nameChar c = true) ∧ bare m = true := by
  unfold canonMapNameWF at h
  split at h
  · rename_i c m
    simp only [Bool.and_eq_true, Bool.or_eq_true, beq_iff_eq, or_assoc] at h
    exact ⟨c, m, rfl, h.2, h.1⟩
  · simp at h

theorem parseValue_canonMapLike (c : Char) (t : Text)
    (hc : c = '#' ∨ c = '$' ∨ c = '%' ∨ nameChar c = true) :
    parseValue (c :: '%' :: t) = parseVariable (c :: '%' :: t) := by
  have plain : ∀ (h1 : c ≠ '"') (h2 : c ≠ '%') (h3 : c ≠ ':') (h4 : c ≠ '['),
      parseValue (c :: '%' :: t) = parseVariable (c :: '%' :: t) := fun h1 h2 h3 h4 => by
    rw [parseValue_plain c _ h1 h2 h3 h4,
      parsePlain_variable _ '%' (by simp) (by decide)]
  rcases hc with rfl | rfl | rfl | h
  · exact plain (by decide) (by decide) (by decide) (by decide)
  · exact plain (by decide) (by decide) (by decide) (by decide)
  · simp [parseValue, parsePercent, expectPre]
  · exact plain (nameChar_ne c h _ (by decide)) (nameChar_ne c h _ (by decide)) (nameChar_ne c h _ (by decide))
      (nameChar_ne c h _ (by decide))

theorem parseValue_canonMap (n : String) (ol : Option Lambda) (h : canonMapNameWF n.toList = true) (hl : optLambdaWF ol = true) :
    parseValue (n.toList ++ optLambdaText ol) = some (varOf .canonMap n ol) := by
  obtain ⟨c, m, hn, hc, hm⟩ := canonMapName_cases _ h
  have hd : '.' ∉ n.toList := by
    rw [hn]
    refine List.not_mem_cons_of_ne_of_not_mem ?_ (List.not_mem_cons_of_ne_of_not_mem (by decide) (bare_no m hm '.' (by decide)))
    rintro rfl
    revert hc
    decide
  rw [← parseVariable_text n .canonMap ol hd (by rw [hn]; rfl) hl, hn]
  exact parseValue_canonMapLike c _ hc

theorem parseErrorLike_opt (mk : Option Lambda → Value) (l : Option Lambda) (h : optLambdaWF l = true) :
    parseErrorLike mk (optLambdaText l) = some (mk l) := by
  cases l with
  | none => rfl
  | some l =>
    obtain ⟨t, ht⟩ := lambdaText_head l
    have hne : (lambdaText l).isEmpty = false := by rw [ht]; rfl
    simp only [optLambdaText, parseErrorLike, hne, Bool.false_eq_true, if_false, parseLambda_text l h, Option.map_some]

theorem parseValue_literal (s : String) (h : s.toList.contains '"' = false) :
    parseValue (quoted s.toList) = some (.literal s) := by
  simp only [quoted, parseValue, List.cons_append, List.head?_cons, if_true, parseLiteral, List.getLast?_concat,
    List.dropLast_concat, h, Bool.false_eq_true, if_false, String.ofList_toList]

def numHead (c : Char) : Prop := c.isDigit = true ∨ c = '.' ∨ c = '-'

theorem numHead_dispatch (c : Char) (h : numHead c) : c ≠ '"' ∧ c ≠ '%' ∧ c ≠ ':' ∧ c ≠ '[' ∧ c ≠ 't' ∧ c ≠ 'f' := by
  rcases h with h | rfl | rfl
  · refine ⟨?_, ?_, ?_, ?_, ?_, ?_⟩ <;> (intro e; subst e; simp [Char.isDigit] at h)
  · decide
  · decide

theorem parseValue_numeric (cs : Text) (h : ∃ c t, cs = c :: t ∧ numHead c) :
    parseValue cs = match parseInt? cs with
      | some n => some (.number n)
      | none => if isFloatText cs then some (.float (String.ofList cs)) else parseVariable cs := by
  obtain ⟨c, t, rfl, hc⟩ := h
  obtain ⟨h1, h2, h3, h4, h5, h6⟩ := numHead_dispatch c hc
  have n1 : c :: t ≠ "true".toList := by intro e; simp at e; exact h5 e.1
  have n2 : c :: t ≠ "false".toList := by intro e; simp at e; exact h6 e.1
  rw [parseValue_plain c t h1 h2 h3 h4, parsePlain, if_neg n1, if_neg n2]
  cases parseInt? (c :: t) <;> rfl

theorem parseValue_number (z : Int) : parseValue (intText z) = some (.number z) := by
  have hh : ∃ c t, intText z = c :: t ∧ numHead c := by
    cases z with
    | ofNat n =>
      simp only [intText]
      cases h : natText n with
      | nil => exact absurd h (natText_ne_nil n)
      | cons c cs => exact ⟨c, cs, rfl, Or.inl (natText_digits n c (by simp [h]))⟩
    | negSucc n => exact ⟨'-', _, rfl, Or.inr (Or.inr rfl)⟩
  rw [parseValue_numeric _ hh, parseInt_intText]

theorem isFloatText_cases (cs : Text) (h : isFloatText cs = true) :
    (∃ c t, cs = c :: t ∧ numHead c) ∧ parseInt? cs = none := by
  unfold isFloatText at h
  simp only [Bool.and_eq_true, List.all_eq_true, Bool.or_eq_true, beq_iff_eq] at h
  obtain ⟨hall, hshape⟩ := h
  have hdot := floatShape_dot _ hshape
  have hdot' : '.' ∈ cs := unsigned_subset cs _ hdot
  refine ⟨?_, parseInt_none_of_bad cs '.' hdot' (by decide) (by decide)⟩
  cases cs with
  | nil => simp at hdot'
  | cons c t =>
    refine ⟨c, t, rfl, ?_⟩
    by_cases hm : c = '-'
    · exact Or.inr (Or.inr hm)
    · have : c ∈ unsigned (c :: t) := mem_unsigned _ c (by simp) hm
      rcases hall c this with h | h
      · exact Or.inl h
      · exact Or.inr (Or.inl h)

theorem parseValue_float (r : String) (h : isFloatText r.toList = true) : parseValue r.toList = some (.float r) := by
  obtain ⟨hh, hint⟩ := isFloatText_cases _ h
  rw [parseValue_numeric _ hh, hint]
  simp only [h, if_true, String.ofList_toList]

theorem parseValue_lastError (l : Option Lambda) (h : optLambdaWF l = true) :
    parseValue ("%last_error%".toList ++ optLambdaText l) = some (.lastError l) := by
  have := parseErrorLike_opt .lastError l h
  simp [parseValue, parsePercent, expectPre, this]

theorem parseValue_error (l : Option Lambda) (h : optLambdaWF l = true) :
    parseValue (":error:".toList ++ optLambdaText l) = some (.error l) := by
  have := parseErrorLike_opt .error l h
  simp [parseValue, expectPre, this]

end AquaProps.Lemmas.OperandReader
