import AquaProps.Lemmas.JsonFuel
import AquaProps.Lemmas.JsonStr
/-! Print → parse round trip of whole values: `parseValue (render v ++ rest) = (v, rest)`. -/
namespace AquaProps.JsonLemmas
open Aqua.Json

/-- what may follow a value inside printed JSON -/
def restOk : List Char → Bool
  | [] => true
  | c :: _ => c == ',' || c == ']' || c == '}'

theorem numEnd_of_restOk (rest : List Char) (h : restOk rest = true) : numEnd rest = true := by
  cases rest with
  | nil => rfl
  | cons c r =>
    simp only [restOk, Bool.or_eq_true, beq_iff_eq] at h
    rcases h with (h | h) | h <;> subst h <;> rfl

/-- the float text `r` is one the number lexer (with the oracle `fo`) reads back as itself.  This is the
print/parse round trip of `f64`, which is outside the model (`ryu` / `f64_from_parts`). -/
def FloatRT (fo : FloatOracle) (r : String) : Prop :=
  (∃ c cs, r.toList = c :: cs ∧ (c = '-' ∨ isDigit c = true)) ∧
  ∀ rest, restOk rest = true → parseNumTok fo (r.toList ++ rest) = .ok (.float r, rest)

/-- the iteration order of a `BTreeMap` -/
def KeysSorted (kvs : List (String × JVal)) : Prop := (kvs.map Prod.fst).Pairwise (· < ·)

mutual
/-- the invariant of values held by the implementation -/
def WF (fo : FloatOracle) : JVal → Prop
  | .null => True
  | .bool _ => True
  | .num i => -9223372036854775808 ≤ i ∧ i ≤ 18446744073709551615
  | .float r => FloatRT fo r
  | .str _ => True
  | .arr l => WFList fo l
  | .obj kvs => WFPairs fo kvs ∧ KeysSorted kvs
def WFList (fo : FloatOracle) : List JVal → Prop
  | [] => True
  | v :: vs => WF fo v ∧ WFList fo vs
def WFPairs (fo : FloatOracle) : List (String × JVal) → Prop
  | [] => True
  | (_, v) :: kvs => WF fo v ∧ WFPairs fo kvs
end

mutual
def vdepth : JVal → Nat
  | .arr l => 1 + vdepthList l
  | .obj kvs => 1 + vdepthPairs kvs
  | _ => 0
def vdepthList : List JVal → Nat
  | [] => 0
  | v :: vs => max (vdepth v) (vdepthList vs)
def vdepthPairs : List (String × JVal) → Nat
  | [] => 0
  | (_, v) :: kvs => max (vdepth v) (vdepthPairs kvs)
end

mutual
/-- fuel that suffices to parse the printed value -/
def sz : JVal → Nat
  | .arr l => 1 + szList l
  | .obj kvs => 1 + szPairs kvs
  | _ => 1
def szList : List JVal → Nat
  | [] => 1
  | v :: vs => 1 + sz v + szList vs
def szPairs : List (String × JVal) → Nat
  | [] => 1
  | (_, v) :: kvs => 1 + sz v + szPairs kvs
end

theorem sz_pos (v : JVal) : 1 ≤ sz v := by
  cases v with
  | arr l => exact Nat.le_add_right 1 (szList l)
  | obj kvs => exact Nat.le_add_right 1 (szPairs kvs)
  | _ => exact Nat.le_refl 1

theorem szList_pos : (l : List JVal) → 1 ≤ szList l
  | [] => Nat.le_refl 1
  | v :: vs => Nat.le_trans (Nat.le_add_right 1 (sz v)) (Nat.le_add_right _ (szList vs))

theorem szPairs_pos : (l : List (String × JVal)) → 1 ≤ szPairs l
  | [] => Nat.le_refl 1
  | (_, v) :: kvs => Nat.le_trans (Nat.le_add_right 1 (sz v)) (Nat.le_add_right _ (szPairs kvs))

theorem render_arr_toList (l : List JVal) :
    (JVal.render (.arr l)).toList = '[' :: ((JVal.renderList l).toList ++ [']']) := by
  show ("[" ++ JVal.renderList l ++ "]").toList = _
  rw [String.toList_append, String.toList_append]; rfl

theorem render_obj_toList (kvs : List (String × JVal)) :
    (JVal.render (.obj kvs)).toList = '{' :: ((JVal.renderPairs kvs).toList ++ ['}']) := by
  show ("{" ++ JVal.renderPairs kvs ++ "}").toList = _
  rw [String.toList_append, String.toList_append]; rfl

def renderTail : List JVal → List Char
  | [] => []
  | v :: vs => ',' :: ((JVal.render v).toList ++ renderTail vs)

theorem renderList_toList (v : JVal) (vs : List JVal) :
    (JVal.renderList (v :: vs)).toList = (JVal.render v).toList ++ renderTail vs := by
  induction vs generalizing v with
  | nil => simp [JVal.renderList, renderTail]
  | cons v' vs' ih =>
    simp only [JVal.renderList, String.toList_append, ih v', renderTail, List.append_assoc]; rfl

def renderMember (k : String) (v : JVal) : List Char := (renderStr k).toList ++ ':' :: (JVal.render v).toList

def renderPairsTail : List (String × JVal) → List Char
  | [] => []
  | (k, v) :: kvs => ',' :: (renderMember k v ++ renderPairsTail kvs)

theorem renderPairs_toList (k : String) (v : JVal) (kvs : List (String × JVal)) :
    (JVal.renderPairs ((k, v) :: kvs)).toList = renderMember k v ++ renderPairsTail kvs := by
  have hd : (":" : String).toList = [':'] := by decide
  induction kvs generalizing k v with
  | nil => simp [JVal.renderPairs, renderPairsTail, renderMember, hd]
  | cons kv kvs' ih =>
    obtain ⟨k', v'⟩ := kv
    have hc : ("," : String).toList = [','] := by decide
    simp only [JVal.renderPairs, String.toList_append, hc, hd, ih k' v', renderPairsTail, renderMember]
    simp

theorem restOk_tail (vs : List JVal) (rest : List Char) : restOk (renderTail vs ++ ']' :: rest) = true := by
  cases vs <;> rfl

theorem restOk_pairsTail (kvs : List (String × JVal)) (rest : List Char) : restOk (renderPairsTail kvs ++ '}' :: rest) = true := by
  rcases kvs with _ | ⟨⟨k, v⟩, kvs⟩ <;> rfl

theorem skipWs_of_not_ws (c : Char) (cs : List Char) (h : isWs c = false) : skipWs (c :: cs) = c :: cs := by
  simp [skipWs, h]

theorem parseValue_null (fo : FloatOracle) (f depth : Nat) (rest : List Char) :
    parseValue fo (f + 1) depth ("null".toList ++ rest) = .ok (.null, rest) :=
  (parseValue_succ fo f depth (c := 'n') (r := ['u', 'l', 'l'] ++ rest) rfl).trans rfl

theorem parseValue_true (fo : FloatOracle) (f depth : Nat) (rest : List Char) :
    parseValue fo (f + 1) depth ("true".toList ++ rest) = .ok (.bool true, rest) :=
  (parseValue_succ fo f depth (c := 't') (r := ['r', 'u', 'e'] ++ rest) rfl).trans rfl

theorem parseValue_false (fo : FloatOracle) (f depth : Nat) (rest : List Char) :
    parseValue fo (f + 1) depth ("false".toList ++ rest) = .ok (.bool false, rest) :=
  (parseValue_succ fo f depth (c := 'f') (r := ['a', 'l', 's', 'e'] ++ rest) rfl).trans rfl

/-- what the number lexer accepts starts with `-` or a digit, so `deserialize_any` hands it to the lexer -/
theorem parseValue_numTok (fo : FloatOracle) (f depth : Nat) {cs : List Char} {x : JVal × List Char}
    (hx : parseNumTok fo cs = .ok x) : parseValue fo (f + 1) depth cs = .ok x := by
  cases cs with
  | nil => cases hx
  | cons c cs' =>
    have h : c = '-' ∨ isDigit c = true := by
      by_cases h1 : c = '-'
      · exact .inl h1
      · by_cases h2 : isDigit c = true
        · exact .inr h2
        · simp [parseNumTok, h1, h2] at hx
    have hc : isWs c = false ∧ c ≠ 'n' ∧ c ≠ 't' ∧ c ≠ 'f' := by
      rcases h with rfl | h
      · decide
      · refine ⟨?_, isDigit_ne h rfl, isDigit_ne h rfl, isDigit_ne h rfl⟩
        simp only [isWs, Bool.or_eq_false_iff, decide_eq_false_iff_not]
        exact ⟨⟨⟨isDigit_ne h rfl, isDigit_ne h rfl⟩, isDigit_ne h rfl⟩, isDigit_ne h rfl⟩
    have hd : (c = '-' || isDigit c) = true := by rcases h with rfl | h <;> simp [*]
    rw [parseValue_succ fo f depth (skipWs_of_not_ws c _ hc.1), if_neg hc.2.1, if_neg hc.2.2.1, if_neg hc.2.2.2, if_pos hd, hx]

theorem parseValue_str (fo : FloatOracle) (f depth : Nat) (s : String) (rest : List Char) :
    parseValue fo (f + 1) depth ((renderStr s).toList ++ rest) = .ok (.str s, rest) := by
  rw [renderStr_toList]
  refine (parseValue_succ fo f depth (c := '"') (r := s.toList.flatMap escapeChar ++ '"' :: rest)
    (by simp [skipWs, isWs])).trans ?_
  show andThen (parseStr _) _ = _
  rw [parseStr_renderStr]; rfl

theorem parseValue_arr (fo : FloatOracle) (f : Nat) {depth : Nat} {cs rest : List Char} {vs : List JVal}
    (hd : 1 < depth) (he : parseElems fo f (depth - 1) true cs = .ok (vs, ']' :: rest)) :
    parseValue fo (f + 1) depth ('[' :: cs) = .ok (.arr vs, rest) := by
  refine (parseValue_succ fo f depth (c := '[') (r := cs) rfl).trans ((if_neg (Nat.not_le.mpr hd)).trans ?_)
  rw [he]; rfl

theorem parseValue_obj (fo : FloatOracle) (f : Nat) {depth : Nat} {cs rest : List Char} {kvs : List (String × JVal)}
    (hd : 1 < depth) (he : parseMembers fo f (depth - 1) true cs = .ok (kvs, '}' :: rest)) :
    parseValue fo (f + 1) depth ('{' :: cs) = .ok (JVal.mkObj kvs, rest) := by
  refine (parseValue_succ fo f depth (c := '{') (r := cs) rfl).trans ((if_neg (Nat.not_le.mpr hd)).trans ?_)
  rw [he]; rfl

theorem skipWs_skipWs (cs : List Char) : skipWs (skipWs cs) = skipWs cs := by
  fun_induction skipWs cs with
  | case1 => rfl
  | case2 c cs h ih => exact ih
  | case3 c cs h => exact if_neg h

theorem parseValue_skipWs (fo : FloatOracle) (f depth : Nat) (cs : List Char) :
    parseValue fo f depth (skipWs cs) = parseValue fo f depth cs := by
  cases f with
  | zero => rw [parseValue, parseValue]
  | succ f =>
    cases h : skipWs cs with
    | nil => rw [parseValue_succ_eof fo f depth h, parseValue_succ_eof fo f depth rfl]
    | cons c r => rw [parseValue_succ fo f depth h, parseValue_succ fo f depth (h ▸ skipWs_skipWs cs)]

theorem parseValue_ok_head {fo : FloatOracle} {f depth : Nat} {cs : List Char} {v : JVal} {r : List Char}
    (h : parseValue fo f depth cs = .ok (v, r)) : ∃ c rest, skipWs cs = c :: rest ∧ c ≠ ']' := by
  cases f with
  | zero => rw [parseValue] at h; cases h
  | succ f =>
    cases hs : skipWs cs with
    | nil => rw [parseValue_succ_eof fo f depth hs] at h; cases h
    | cons c rest =>
      refine ⟨c, rest, rfl, fun hc => ?_⟩
      subst hc
      rw [(parseValue_succ fo f depth hs).trans rfl] at h
      cases h

theorem parseElems_nil (fo : FloatOracle) (f depth : Nat) (first : Bool) (rest : List Char) :
    parseElems fo (f + 1) depth first (']' :: rest) = .ok ([], ']' :: rest) := by
  rw [parseElems, skipWs_of_not_ws _ _ (by decide)]; simp

theorem parseElems_first_step (fo : FloatOracle) (f depth : Nat) {cs : List Char}
    {v : JVal} {r : List Char} {vs : List JVal} {r' : List Char}
    (hv : parseValue fo f depth cs = .ok (v, r)) (hr : parseElems fo f depth false r = .ok (vs, r')) :
    parseElems fo (f + 1) depth true cs = .ok (v :: vs, r') := by
  obtain ⟨c, rest, hs, hc⟩ := parseValue_ok_head hv
  rw [← parseValue_skipWs, hs] at hv
  rw [parseElems, hs]
  simp only [hc, if_false, Bool.not_true, Bool.and_false, Bool.false_eq_true, if_true, hv, hr]

theorem parseElems_next_step (fo : FloatOracle) (f depth : Nat) {cs : List Char}
    {v : JVal} {r : List Char} {vs : List JVal} {r' : List Char}
    (hv : parseValue fo f depth cs = .ok (v, r)) (hr : parseElems fo f depth false r = .ok (vs, r')) :
    parseElems fo (f + 1) depth false (',' :: cs) = .ok (v :: vs, r') := by
  obtain ⟨c, rest, hs, hc⟩ := parseValue_ok_head hv
  rw [← parseValue_skipWs, hs] at hv
  rw [parseElems, skipWs_of_not_ws _ _ (by decide)]
  simp only [show (',' : Char) ≠ ']' by decide, if_false, Bool.not_false, Bool.and_true, decide_true, if_true,
    hs, hc, hv, hr]

theorem parseMembers_nil (fo : FloatOracle) (f depth : Nat) (first : Bool) (rest : List Char) :
    parseMembers fo (f + 1) depth first ('}' :: rest) = .ok ([], '}' :: rest) := by
  rw [parseMembers, skipWs_of_not_ws _ _ (by decide)]; simp

theorem parseMembers_first_step (fo : FloatOracle) (f depth : Nat) (k : String) (tail : List Char)
    (v : JVal) (r : List Char) (kvs : List (String × JVal)) (r' : List Char)
    (hv : parseValue fo f depth tail = .ok (v, r)) (hr : parseMembers fo f depth false r = .ok (kvs, r')) :
    parseMembers fo (f + 1) depth true ((renderStr k).toList ++ ':' :: tail) = .ok ((k, v) :: kvs, r') := by
  rw [renderStr_toList]
  simp only [List.cons_append, List.nil_append, List.append_assoc]
  rw [parseMembers, skipWs_of_not_ws _ _ (by decide)]
  simp only [show ('"' : Char) ≠ '}' by decide, show ('"' : Char) ≠ ',' by decide, if_false, Bool.not_true, Bool.and_false,
    Bool.false_eq_true, if_true, decide_false, parseStr_renderStr, skipWs_of_not_ws ':' tail (by decide), hv, hr]

theorem parseMembers_next_step (fo : FloatOracle) (f depth : Nat) (k : String) (tail : List Char)
    (v : JVal) (r : List Char) (kvs : List (String × JVal)) (r' : List Char)
    (hv : parseValue fo f depth tail = .ok (v, r)) (hr : parseMembers fo f depth false r = .ok (kvs, r')) :
    parseMembers fo (f + 1) depth false (',' :: ((renderStr k).toList ++ ':' :: tail)) = .ok ((k, v) :: kvs, r') := by
  rw [renderStr_toList]
  simp only [List.cons_append, List.nil_append, List.append_assoc]
  rw [parseMembers, skipWs_of_not_ws _ _ (by decide)]
  simp only [show (',' : Char) ≠ '}' by decide, if_false, Bool.not_false, Bool.and_true, decide_true, if_true,
    skipWs_of_not_ws '"' _ (by decide), parseStr_renderStr, skipWs_of_not_ws ':' tail (by decide), hv, hr]

/-! `insertSorted` and `stdInsertSorted` are one function at two value types; this is proved of any `ins` that
has their defining equations. -/

theorem foldl_insert_sorted {α : Type} (ins : String → α → List (String × α) → List (String × α))
    (h0 : ∀ k v, ins k v [] = [(k, v)])
    (hc : ∀ k v k' v' rest, ins k v ((k', v') :: rest) =
      if k == k' then (k, v) :: rest else if strLt k k' then (k, v) :: (k', v') :: rest else (k', v') :: ins k v rest)
    (kvs acc : List (String × α)) (h : ((acc ++ kvs).map Prod.fst).Pairwise (· < ·)) :
    kvs.foldl (fun acc (p : String × α) => ins p.1 p.2 acc) acc = acc ++ kvs := by
  have append : ∀ k v (acc : List (String × α)), (∀ p ∈ acc, p.1 < k) → ins k v acc = acc ++ [(k, v)] := by
    intro k v acc h
    induction acc with
    | nil => exact h0 k v
    | cons p rest ih =>
      obtain ⟨k', v'⟩ := p
      have hlt : k' < k := h (k', v') (by simp)
      have hne : (k == k') = false := beq_eq_false_iff_ne.mpr (String.ne_of_lt hlt).symm
      have hnl : strLt k k' = false := decide_eq_false (String.lt_asymm hlt)
      rw [hc, hne, hnl, ih fun p hp => h p (by simp [hp])]; rfl
  induction kvs generalizing acc with
  | nil => simp
  | cons p rest ih =>
    obtain ⟨k, v⟩ := p
    have hall : ∀ q ∈ acc, q.1 < k := by
      intro q hq
      rw [List.map_append, List.pairwise_append] at h
      exact h.2.2 q.1 (List.mem_map_of_mem hq) k (by simp)
    rw [List.foldl_cons, append k v acc hall, ih (acc ++ [(k, v)]) (by simpa using h)]
    simp

theorem mkObj_sorted (kvs : List (String × JVal)) (h : KeysSorted kvs) : JVal.mkObj kvs = .obj kvs :=
  congrArg JVal.obj (foldl_insert_sorted insertSorted (fun _ _ => rfl) (fun _ _ _ _ _ => rfl) kvs [] h)

/-- an element and the rest of its list are parsed with one unit of fuel less than the list -/
theorem fuel_cons {a b f : Nat} (h : 1 + a + b ≤ f + 1) : a ≤ f ∧ b ≤ f := by omega

mutual
theorem parseValue_render (fo : FloatOracle) : (v : JVal) → ∀ (fuel depth : Nat) (rest : List Char),
    WF fo v → sz v ≤ fuel → vdepth v < depth → restOk rest = true →
    parseValue fo fuel depth ((JVal.render v).toList ++ rest) = .ok (v, rest)
  | v, 0 => fun _ _ _ hf _ _ => absurd hf (Nat.not_le_of_lt (sz_pos v))
  | .null, f + 1 => fun depth rest _ _ _ _ => parseValue_null fo f depth rest
  | .bool true, f + 1 => fun depth rest _ _ _ _ => parseValue_true fo f depth rest
  | .bool false, f + 1 => fun depth rest _ _ _ _ => parseValue_false fo f depth rest
  | .num i, f + 1 => fun depth rest hw _ _ hr =>
    parseValue_numTok fo f depth (parseNumTok_toString fo i rest hw.1 hw.2 (numEnd_of_restOk rest hr))
  | .float r, f + 1 => fun depth rest hw _ _ hr => parseValue_numTok fo f depth (hw.2 rest hr)
  | .str s, f + 1 => fun depth rest _ _ _ _ => parseValue_str fo f depth s rest
  | .arr l, f + 1 => fun depth rest hw hf hd _ => by
    simp only [sz] at hf
    simp only [vdepth] at hd
    rw [render_arr_toList, List.cons_append, List.append_assoc]
    exact parseValue_arr fo f (by omega) (parseElems_first fo l f (depth - 1) rest hw (by omega) (by omega))
  | .obj kvs, f + 1 => fun depth rest hw hf hd _ => by
    simp only [sz] at hf
    simp only [vdepth] at hd
    rw [render_obj_toList, List.cons_append, List.append_assoc]
    exact (parseValue_obj fo f (by omega) (parseMembers_first fo kvs f (depth - 1) rest hw.1 (by omega) (by omega))).trans
      (by rw [mkObj_sorted kvs hw.2])
theorem parseElems_first (fo : FloatOracle) : (l : List JVal) → ∀ (fuel depth : Nat) (rest : List Char),
    WFList fo l → szList l ≤ fuel → vdepthList l < depth →
    parseElems fo fuel depth true ((JVal.renderList l).toList ++ ']' :: rest) = .ok (l, ']' :: rest)
  | l, 0 => fun _ _ _ hf _ => absurd hf (Nat.not_le_of_lt (szList_pos l))
  | [], f + 1 => fun depth rest _ _ _ => parseElems_nil fo f depth true rest
  | v :: vs, f + 1 => fun depth rest hw hf hd => by
    have hf := fuel_cons hf
    have hd := Nat.max_lt.mp hd
    rw [renderList_toList, List.append_assoc]
    exact parseElems_first_step fo f depth
      (parseValue_render fo v f depth _ hw.1 hf.1 hd.1 (restOk_tail vs rest))
      (parseElems_tail fo vs f depth rest hw.2 hf.2 hd.2)
theorem parseElems_tail (fo : FloatOracle) : (l : List JVal) → ∀ (fuel depth : Nat) (rest : List Char),
    WFList fo l → szList l ≤ fuel → vdepthList l < depth →
    parseElems fo fuel depth false (renderTail l ++ ']' :: rest) = .ok (l, ']' :: rest)
  | l, 0 => fun _ _ _ hf _ => absurd hf (Nat.not_le_of_lt (szList_pos l))
  | [], f + 1 => fun depth rest _ _ _ => parseElems_nil fo f depth false rest
  | v :: vs, f + 1 => fun depth rest hw hf hd => by
    have hf := fuel_cons hf
    have hd := Nat.max_lt.mp hd
    simp only [renderTail, List.cons_append, List.append_assoc]
    exact parseElems_next_step fo f depth
      (parseValue_render fo v f depth _ hw.1 hf.1 hd.1 (restOk_tail vs rest))
      (parseElems_tail fo vs f depth rest hw.2 hf.2 hd.2)
theorem parseMembers_first (fo : FloatOracle) : (kvs : List (String × JVal)) → ∀ (fuel depth : Nat) (rest : List Char),
    WFPairs fo kvs → szPairs kvs ≤ fuel → vdepthPairs kvs < depth →
    parseMembers fo fuel depth true ((JVal.renderPairs kvs).toList ++ '}' :: rest) = .ok (kvs, '}' :: rest)
  | l, 0 => fun _ _ _ hf _ => absurd hf (Nat.not_le_of_lt (szPairs_pos l))
  | [], f + 1 => fun depth rest _ _ _ => parseMembers_nil fo f depth true rest
  | (k, v) :: kvs, f + 1 => fun depth rest hw hf hd => by
    have hf := fuel_cons hf
    have hd := Nat.max_lt.mp hd
    rw [renderPairs_toList, renderMember, List.append_assoc, List.append_assoc]
    exact parseMembers_first_step fo f depth k _ v _ kvs _
      (parseValue_render fo v f depth _ hw.1 hf.1 hd.1 (restOk_pairsTail kvs rest))
      (parseMembers_tail fo kvs f depth rest hw.2 hf.2 hd.2)
theorem parseMembers_tail (fo : FloatOracle) : (kvs : List (String × JVal)) → ∀ (fuel depth : Nat) (rest : List Char),
    WFPairs fo kvs → szPairs kvs ≤ fuel → vdepthPairs kvs < depth →
    parseMembers fo fuel depth false (renderPairsTail kvs ++ '}' :: rest) = .ok (kvs, '}' :: rest)
  | l, 0 => fun _ _ _ hf _ => absurd hf (Nat.not_le_of_lt (szPairs_pos l))
  | [], f + 1 => fun depth rest _ _ _ => parseMembers_nil fo f depth false rest
  | (k, v) :: kvs, f + 1 => fun depth rest hw hf hd => by
    have hf := fuel_cons hf
    have hd := Nat.max_lt.mp hd
    simp only [renderPairsTail, renderMember, List.cons_append, List.append_assoc]
    exact parseMembers_next_step fo f depth k _ v _ kvs _
      (parseValue_render fo v f depth _ hw.1 hf.1 hd.1 (restOk_pairsTail kvs rest))
      (parseMembers_tail fo kvs f depth rest hw.2 hf.2 hd.2)
end

mutual
theorem sz_le : (v : JVal) → sz v ≤ 2 * (JVal.render v).toList.length + 1
  | .arr [] => by
    rw [render_arr_toList]; simp only [sz, szList, List.length_cons, List.length_append]; omega
  | .arr (v :: vs) => by
    rw [render_arr_toList, renderList_toList]
    have h1 := sz_le v
    have h2 := szList_le vs
    simp only [sz, szList, List.length_cons, List.length_append, List.length_nil]
    omega
  | .obj [] => by
    rw [render_obj_toList]; simp only [sz, szPairs, List.length_cons, List.length_append]; omega
  | .obj ((k, v) :: kvs) => by
    rw [render_obj_toList, renderPairs_toList]
    have h1 := sz_le v
    have h2 := szPairs_le kvs
    simp only [sz, szPairs, renderMember, List.length_cons, List.length_append, List.length_nil]
    omega
  | .null | .bool _ | .num _ | .float _ | .str _ => Nat.le_add_left 1 _
theorem szList_le : (vs : List JVal) → szList vs ≤ 2 * (renderTail vs).length + 1
  | [] => by simp [szList, renderTail]
  | v :: vs => by
    have h1 := sz_le v
    have h2 := szList_le vs
    simp only [szList, renderTail, List.length_cons, List.length_append]
    omega
theorem szPairs_le : (kvs : List (String × JVal)) → szPairs kvs ≤ 2 * (renderPairsTail kvs).length + 1
  | [] => by simp [szPairs, renderPairsTail]
  | (k, v) :: kvs => by
    have h1 := sz_le v
    have h2 := szPairs_le kvs
    simp only [szPairs, renderPairsTail, renderMember, List.length_cons, List.length_append]
    omega
end

theorem szList_tail_le (fo : FloatOracle) : (vs : List JVal) → WFList fo vs → szList vs ≤ 2 * (renderTail vs).length + 1 :=
  fun vs _ => szList_le vs
theorem szPairs_tail_le (fo : FloatOracle) : (kvs : List (String × JVal)) → WFPairs fo kvs →
    szPairs kvs ≤ 2 * (renderPairsTail kvs).length + 1 :=
  fun kvs _ => szPairs_le kvs

theorem parseList_render (fo : FloatOracle) (limit : Nat) (v : JVal) (hw : WF fo v) (hd : vdepth v < limit) :
    JVal.parseList fo limit (JVal.render v).toList = .ok v := by
  unfold JVal.parseList
  have hs := sz_le v
  have h := parseValue_render fo v (2 * (JVal.render v).toList.length + 8) limit [] hw (by omega) hd rfl
  rw [List.append_nil] at h
  rw [h]; rfl
end AquaProps.JsonLemmas
