import AquaProps.Lemmas.Panic
/-!
C01: panic sites of the trace-handler model, function by function.  The slider, the mergers and the `par`
machine never panic (the statements hold for every list `L`); the fold machine can reach six sites, and its
lemmas ask for exactly those (`TraceSites L`) — so they serve both the theorem about the handler alone and the
executor.
-/
namespace AquaProps.Panic
open Aqua Aqua.Trace Aqua.Data

def sPMP := "position_mapping.rs:prev_position-1"
def sPMC := "position_mapping.rs:current_position-1"
def sCUM := "fold_lore_resolver.rs:cum_after_len+=after_len"
def sLB := "lore_ctor.rs:PositionsTracker::len(before)"
def sLA := "lore_ctor.rs:PositionsTracker::len(after)"
def sCUR0 := "lore_ctor_queue.rs:current:back_traversal_pos-1"
def sCURI := "lore_ctor_queue.rs:current:index"
def sTB := "lore_ctor_queue.rs:traverse_back"

variable {L : List String} {ε α : Type}

/-- repaired in /repo 95e5498 (`checked_add`) -/
theorem setPositionAndLen_in (s : TraceSlider) (p l : Nat) : ResIn L (s.setPositionAndLen p l) := by
  simp [TraceSlider.setPositionAndLen]

/-- repaired in /repo d774f34 (`saturating_sub`) -/
theorem setSubtraceLen_in (s : TraceSlider) (l : Nat) : ResIn L (s.setSubtraceLen l) := by
  simp [TraceSlider.setSubtraceLen]

/-- repaired in /repo 8502764 (match guard) -/
theorem tryGetGeneration_in (s : TraceSlider) (p : Nat) : ResIn L (tryGetGeneration s p) := by
  unfold tryGetGeneration
  split
  · simp
  · simp
  · split <;> simp
  · simp

theorem preparePositionsMapping_in (hp : sPMP ∈ L) (hc : sPMC ∈ L) (sch : PreparationScheme) (k : DataKeeper) :
    ResIn L (preparePositionsMapping sch k) := by
  unfold sPMP at hp; unfold sPMC at hc
  cases sch <;> simp [preparePositionsMapping, resIn_subU32, hp, hc]

theorem mergeExecuted_in (p c : ValueRef) : ResIn L (mergeExecuted p c) := by
  unfold mergeExecuted
  split <;> simp

theorem mergeCallResults_in (p c : CallResult) : ResIn L (mergeCallResults p c) := by
  unfold mergeCallResults
  split <;> simp [mergeExecuted_in]

/-! `position - 1` of the position mapping cannot underflow: a state has just been read from the slider concerned -/

theorem nextState_some_pos (s : TraceSlider) (st : ExecutedState) (s' : TraceSlider) (h : s.nextState = (some st, s')) : 1 ≤ s'.position := by
  unfold TraceSlider.nextState at h
  split at h
  · cases h
  · split at h
    · cases h
    · cases h; simp

theorem preparePositionsMapping_never (sch : PreparationScheme) (k : DataKeeper)
    (hp : sch ≠ .current → 1 ≤ k.prev.position) (hc : sch ≠ .previous → 1 ≤ k.cur.position) :
    ResIn L (preparePositionsMapping sch k) := by
  have sub (site : String) (a : Nat) (h : 1 ≤ a) : ResIn L (subU32 site a 1 : TR Nat) := by
    simp [subU32]; omega
  cases sch <;> simp [preparePositionsMapping, sub, hp, hc]

theorem prepareCallResult_never (r : CallResult) (sch : PreparationScheme) (k : DataKeeper)
    (hp : sch ≠ .current → 1 ≤ k.prev.position) (hc : sch ≠ .previous → 1 ≤ k.cur.position) :
    ResIn L (prepareCallResult r sch k) := by
  simp [prepareCallResult, preparePositionsMapping_never _ _ hp hc]

theorem prepareApMergeResult_never (g : List Nat) (sch : PreparationScheme) (k : DataKeeper)
    (hp : sch ≠ .current → 1 ≤ k.prev.position) (hc : sch ≠ .previous → 1 ≤ k.cur.position) :
    ResIn L (prepareApMergeResult g sch k) := by
  simp only [prepareApMergeResult, resIn_bind_iff, preparePositionsMapping_never _ _ hp hc, true_and]
  intros; split <;> simp

theorem tryMergeNextStateAsCall_never (k : DataKeeper) : ResIn L (tryMergeNextStateAsCall k) := by
  unfold tryMergeNextStateAsCall nextStates
  rcases hp : k.prev.nextState with ⟨p, ps⟩
  rcases hc : k.cur.nextState with ⟨c, cs⟩
  have h1 := fun st (h : p = some st) => nextState_some_pos _ st _ (h ▸ hp)
  have h2 := fun st (h : c = some st) => nextState_some_pos _ st _ (h ▸ hc)
  dsimp only
  split
  · split
    · exact prepareCallResult_never _ _ _ (fun _ => h1 _ rfl) (fun _ => h2 _ rfl)
    · simp
    · exact (mergeCallResults_in _ _).of_eq ‹_›
  · exact prepareCallResult_never _ _ _ nofun (fun _ => h2 _ rfl)
  · exact prepareCallResult_never _ _ _ (fun _ => h1 _ rfl) nofun
  all_goals simp

theorem tryMergeNextStateAsAp_never (k : DataKeeper) : ResIn L (tryMergeNextStateAsAp k) := by
  unfold tryMergeNextStateAsAp nextStates
  rcases hp : k.prev.nextState with ⟨p, ps⟩
  rcases hc : k.cur.nextState with ⟨c, cs⟩
  have h1 := fun st (h : p = some st) => nextState_some_pos _ st _ (h ▸ hp)
  have h2 := fun st (h : c = some st) => nextState_some_pos _ st _ (h ▸ hc)
  dsimp only
  split
  · exact prepareApMergeResult_never _ _ _ (fun _ => h1 _ rfl) (fun _ => h2 _ rfl)
  · exact prepareApMergeResult_never _ _ _ (fun _ => h1 _ rfl) nofun
  · exact prepareApMergeResult_never _ _ _ nofun (fun _ => h2 _ rfl)
  all_goals simp

theorem mergeCanonResults_in (p c : CanonResult) : ResIn L (mergeCanonResults p c) := by
  unfold mergeCanonResults
  split <;> simp

theorem tryMergeNextStateAsCanon_in (k : DataKeeper) : ResIn L (tryMergeNextStateAsCanon k) := by
  unfold tryMergeNextStateAsCanon
  dsimp only
  split
  · split
    · simp
    · simp
    · exact (mergeCanonResults_in _ _).of_eq ‹_›
  all_goals simp

theorem tryMergeNextStateAsPar_in (k : DataKeeper) : ResIn L (tryMergeNextStateAsPar k) := by
  unfold tryMergeNextStateAsPar
  dsimp only
  split <;> simp

theorem updateCtxStates_in (p : CtxStatesPair) (k : DataKeeper) : ResIn L (updateCtxStates p k) := by
  have upd (s : TraceSlider) (c : CtxState) : ResIn L
      (match s.setPositionAndLen c.pos c.subtraceLen with
        | .ok s' => (.ok s' : TR TraceSlider)
        | .error _ => .ok s
        | .panic site => .panic site) := by
    split
    · simp
    · simp
    · exact (setPositionAndLen_in _ _ _).of_eq ‹_›
  simp only [updateCtxStates, resIn_bind_iff, resIn_pure, implies_true, and_true]
  exact ⟨upd _ _, fun _ _ => upd _ _⟩

theorem parComputeNewState_in (par : ParResult) (t : SubgraphType) (s : TraceSlider) : ResIn L (parComputeNewState par t s) := by
  cases t <;> simp [parComputeNewState]

theorem parPrepareSliders_in (f : ParFSM) (t : SubgraphType) (k : DataKeeper) : ResIn L (parPrepareSliders f t k) := by
  simp [parPrepareSliders, liftKeeperF, setSubtraceLen_in]

theorem fromLeftStarted_in (pp cp : ParResult) (k : DataKeeper) : ResIn L (ParFSM.fromLeftStarted pp cp k) := by
  simp [ParFSM.fromLeftStarted, liftFsm, parComputeNewState_in, parPrepareSliders_in]

theorem leftCompleted_in (f : ParFSM) (k : DataKeeper) : ResIn L (f.leftCompleted k) := by
  simp only [ParFSM.leftCompleted, resIn_bind_iff, updateCtxStates_in, true_and]
  intros
  split
  · simp
  · split
    · simp
    · simp
    · exact (setSubtraceLen_in _ _).of_eq ‹_›
  · exact (parPrepareSliders_in _ _ _).of_eq ‹_›

theorem rightCompleted_in (f : ParFSM) (k : DataKeeper) : ResIn L (f.rightCompleted k) := by
  simp [ParFSM.rightCompleted, updateCtxStates_in]

theorem meetCallStart_in (h : TraceHandler) : ResIn L h.meetCallStart := by
  simp [TraceHandler.meetCallStart, tryMergeNextStateAsCall_never]

theorem meetApStart_in (h : TraceHandler) : ResIn L h.meetApStart := by
  simp [TraceHandler.meetApStart, tryMergeNextStateAsAp_never]

theorem meetCanonStart_in (h : TraceHandler) : ResIn L h.meetCanonStart := by
  simp [TraceHandler.meetCanonStart, tryMergeNextStateAsCanon_in]

theorem meetParStart_in (h : TraceHandler) : ResIn L h.meetParStart := by
  simp [TraceHandler.meetParStart, tryMergeNextStateAsPar_in, fromLeftStarted_in]

theorem meetParSubgraphEnd_in (h : TraceHandler) (t : SubgraphType) : ResIn L (h.meetParSubgraphEnd t) := by
  unfold TraceHandler.meetParSubgraphEnd
  split
  · simp
  · cases t <;> simp [leftCompleted_in, rightCompleted_in]

theorem updateGeneration_in (th : TraceHandler) (p g : Nat) : ResIn L (th.updateGeneration p g) := by
  unfold TraceHandler.updateGeneration
  split <;> simp

theorem resolveFoldLore_build_in : ∀ (ls : List (FoldSubTraceLore × LoresLen)) (acc : List (Nat × ResolvedSubTraceDescs)),
    ResIn L (resolveFoldLore.build ls acc)
  | [], acc => by simp [resolveFoldLore.build]
  | (l, len) :: rest, acc => by simp [resolveFoldLore.build, resolveFoldLore_build_in rest]

theorem foldComputeNewState_in (f : ResolvedFold) (s : TraceSlider) : ResIn L (foldComputeNewState f s) := by
  simp [foldComputeNewState]

theorem fromFoldStart_in (pf cf : ResolvedFold) (k : DataKeeper) : ResIn L (FoldFSM.fromFoldStart pf cf k) := by
  simp [FoldFSM.fromFoldStart, liftFsm, foldComputeNewState_in]

theorem applyFoldLoreOne_in (s : TraceSlider) (l : Option ResolvedSubTraceDescs) (w : ByNextPosition) :
    ResIn L (applyFoldLoreOne s l w) := by
  cases l <;> cases w <;> simp [applyFoldLoreOne, setPositionAndLen_in, setSubtraceLen_in]

theorem applyFoldLore_in (k : DataKeeper) (pl cl : Option ResolvedSubTraceDescs) (w : ByNextPosition) :
    ResIn L (applyFoldLore k pl cl w) := by
  simp [applyFoldLore, liftKeeperF, applyFoldLoreOne_in]

theorem fsm_meetIterationStart_in (f : FoldFSM) (vp : Nat) (k : DataKeeper) :
    ResIn L (f.meetIterationStart vp k) := by
  simp [FoldFSM.meetIterationStart, applyFoldLore_in]

theorem fsm_meetFoldEnd_in (f : FoldFSM) (k : DataKeeper) : ResIn L (f.meetFoldEnd k) := by
  simp [FoldFSM.meetFoldEnd, updateCtxStates_in]

theorem foldMut_in (h : TraceHandler) (id : Nat) : ResIn L (h.foldMut id) := by
  unfold TraceHandler.foldMut
  split <;> simp

theorem meetIterationStart_in (h : TraceHandler) (id vp : Nat) : ResIn L (h.meetIterationStart id vp) := by
  simp [TraceHandler.meetIterationStart, foldMut_in, fsm_meetIterationStart_in]

theorem meetFoldEnd_in (h : TraceHandler) (id : Nat) : ResIn L (h.meetFoldEnd id) := by
  simp [TraceHandler.meetFoldEnd, foldMut_in, fsm_meetFoldEnd_in]

/-- the sites of the fold machine (`u32`/`usize` arithmetic and an index of the lore constructor queue) -/
class TraceSites (L : List String) : Prop where
  mem : ∀ s ∈ [sCUM, sLB, sLA, sCUR0, sCURI, sTB], s ∈ L

variable [TraceSites L]

theorem computeLensConvolution_loop_in (s : TraceSlider) :
    ∀ (ls : List FoldSubTraceLore) (id : Nat) (st : ConvState), ResIn L (computeLensConvolution.loop s id ls st)
  | [], id, st => by simp [computeLensConvolution.loop]
  | l :: rest, id, st => by
    simp [computeLensConvolution.loop, tryGetGeneration_in, computeLensConvolution_loop_in s rest]
    intros; exact resIn_addU32 (TraceSites.mem sCUM (by simp)) _ _

theorem resolveFoldLore_in (lore : List FoldSubTraceLore) (s : TraceSlider) : ResIn L (resolveFoldLore lore s) := by
  simp [resolveFoldLore, computeLensConvolution, computeLensConvolution_loop_in, resolveFoldLore_build_in]

theorem tryMergeNextStateAsFold_in (k : DataKeeper) : ResIn L (tryMergeNextStateAsFold k) := by
  unfold tryMergeNextStateAsFold
  dsimp only
  split <;> simp [resolveFoldLore_in]

theorem meetFoldStart_in (h : TraceHandler) (id : Nat) : ResIn L (h.meetFoldStart id) := by
  simp [TraceHandler.meetFoldStart, tryMergeNextStateAsFold_in, fromFoldStart_in]

theorem fsm_current_in (f : FoldFSM) : ResIn L f.current := by
  unfold FoldFSM.current
  split
  · exact resIn_panic (TraceSites.mem sCUR0 (by simp))
  · split
    · simp
    · exact resIn_panic (TraceSites.mem sCURI (by simp))

theorem fsm_meetIterationEnd_in (f : FoldFSM) (k : DataKeeper) : ResIn L (f.meetIterationEnd k) := by
  simp [FoldFSM.meetIterationEnd, fsm_current_in]

theorem fsm_meetBackIterator_in (f : FoldFSM) (k : DataKeeper) : ResIn L (f.meetBackIterator k) := by
  simp [FoldFSM.meetBackIterator, fsm_current_in, applyFoldLore_in]
  intros; exact resIn_subU32 (TraceSites.mem sTB (by simp)) _ _

theorem intoSubtraceLore_in (c : SubTraceLoreCtor) : ResIn L c.intoSubtraceLore := by
  simp only [SubTraceLoreCtor.intoSubtraceLore, resIn_bind_iff, resIn_pure, implies_true, and_true]
  exact ⟨resIn_subU32 (TraceSites.mem sLB (by simp)) _ _, fun _ _ => resIn_subU32 (TraceSites.mem sLA (by simp)) _ _⟩

theorem fsm_meetGenerationEnd_in (f : FoldFSM) (k : DataKeeper) : ResIn L (f.meetGenerationEnd k) := by
  simp [FoldFSM.meetGenerationEnd, resIn_mapM intoSubtraceLore_in]

theorem meetIterationEnd_in (h : TraceHandler) (id : Nat) : ResIn L (h.meetIterationEnd id) := by
  simp [TraceHandler.meetIterationEnd, foldMut_in, fsm_meetIterationEnd_in]

theorem meetBackIterator_in (h : TraceHandler) (id : Nat) : ResIn L (h.meetBackIterator id) := by
  simp [TraceHandler.meetBackIterator, foldMut_in, fsm_meetBackIterator_in]

theorem meetGenerationEnd_in (h : TraceHandler) (id : Nat) : ResIn L (h.meetGenerationEnd id) := by
  simp [TraceHandler.meetGenerationEnd, foldMut_in, fsm_meetGenerationEnd_in]

end AquaProps.Panic
