import Aqua.Json.Value
/-!
# Objects are canonical: `JVal.mkObj` depends only on the final key→value map

`insertSorted` is `BTreeMap::insert`, `mkObj` the map built by inserting pairs in the given order.
The resulting association list is strictly sorted by key, its lookup function is "the last pair with
that key wins", and a strictly sorted list is determined by its lookup function.
-/
namespace AquaProps.JsonObj
open Aqua.Json

abbrev Pairs := List (String × JVal)

/-- the in-order traversal of a `BTreeMap` -/
def Sorted (l : Pairs) : Prop := l.Pairwise fun a b => a.1 < b.1

/-- the key→value map an insertion sequence ends up with -/
def finalMap (l : Pairs) (k : String) : Option JVal := l.reverse.lookup k

theorem strLt_iff (a b : String) : strLt a b = true ↔ a < b := by simp [strLt]

theorem lookup_cons' (k k₁ : String) (v₁ : JVal) (rest : Pairs) :
    List.lookup k ((k₁, v₁) :: rest) = if k = k₁ then some v₁ else rest.lookup k := by
  rw [List.lookup_cons]
  by_cases h : k = k₁
  · subst h; simp
  · have : (k == k₁) = false := by simpa using h
    simp [this, h]

theorem insertSorted_cons_cases {P : Pairs → Prop} {k : String} {v : JVal} {k₁ : String} {v₁ : JVal} {rest : Pairs}
    (heq : k = k₁ → P ((k, v) :: rest)) (hlt : k < k₁ → P ((k, v) :: (k₁, v₁) :: rest))
    (hgt : k₁ < k → P ((k₁, v₁) :: insertSorted k v rest)) : P (insertSorted k v ((k₁, v₁) :: rest)) := by
  unfold insertSorted
  split
  · exact heq (beq_iff_eq.mp ‹_›)
  · rename_i h1
    split
    · exact hlt ((strLt_iff _ _).mp ‹_›)
    · rename_i h2
      rcases Std.lt_trichotomy k k₁ with h | h | h
      · exact absurd ((strLt_iff _ _).mpr h) h2
      · exact absurd (beq_iff_eq.mpr h) h1
      · exact hgt h

theorem lookup_insertSorted (k : String) (v : JVal) (l : Pairs) (k' : String) :
    (insertSorted k v l).lookup k' = if k' = k then some v else l.lookup k' := by
  induction l with
  | nil => simp [insertSorted, lookup_cons']
  | cons p rest ih =>
    obtain ⟨k₁, v₁⟩ := p
    refine insertSorted_cons_cases (P := fun l => l.lookup k' = if k' = k then some v else List.lookup k' ((k₁, v₁) :: rest))
      (fun h => ?_) (fun _ => lookup_cons' ..) fun h => ?_
    · subst h; rw [lookup_cons', lookup_cons']; split <;> rfl
    · rw [lookup_cons', lookup_cons', ih]
      have hne : k ≠ k₁ := (String.ne_of_lt h).symm
      by_cases hk : k' = k
      · subst hk; simp [hne]
      · simp [hk]

theorem mem_insertSorted {k : String} {v : JVal} {l : Pairs} {p : String × JVal}
    (h : p ∈ insertSorted k v l) : p = (k, v) ∨ p ∈ l := by
  induction l with
  | nil => simpa [insertSorted] using h
  | cons q rest ih =>
    obtain ⟨k₁, v₁⟩ := q
    revert h
    refine insertSorted_cons_cases (P := fun l => p ∈ l → p = (k, v) ∨ p ∈ (k₁, v₁) :: rest)
      (fun _ h => ?_) (fun _ h => ?_) fun _ h => ?_
    · exact (List.mem_cons.mp h).imp_right (List.mem_cons_of_mem _)
    · exact List.mem_cons.mp h
    · rcases List.mem_cons.mp h with h | h
      · exact .inr (h ▸ List.mem_cons_self)
      · exact (ih h).imp_right (List.mem_cons_of_mem _)

theorem insertSorted_sorted (k : String) (v : JVal) (l : Pairs) (hs : Sorted l) :
    Sorted (insertSorted k v l) := by
  induction l with
  | nil => simp [insertSorted, Sorted]
  | cons q rest ih =>
    obtain ⟨k₁, v₁⟩ := q
    have hs' := List.pairwise_cons.mp hs
    refine insertSorted_cons_cases (fun h => ?_) (fun hlt => ?_) fun hgt => ?_
    · subst h; exact List.pairwise_cons.mpr hs'
    · refine List.pairwise_cons.mpr ⟨fun p hp => ?_, hs⟩
      rcases List.mem_cons.mp hp with rfl | hp
      · exact hlt
      · exact String.lt_trans hlt (hs'.1 p hp)
    · refine List.pairwise_cons.mpr ⟨fun p hp => ?_, ih hs'.2⟩
      rcases mem_insertSorted hp with rfl | hp
      · exact hgt
      · exact hs'.1 p hp

theorem lookup_none_of_lt {k : String} {l : Pairs} (h : ∀ p ∈ l, k < p.1) : l.lookup k = none := by
  induction l with
  | nil => rfl
  | cons q rest ih =>
    obtain ⟨k₁, v₁⟩ := q
    rw [lookup_cons', if_neg (String.ne_of_lt (h (k₁, v₁) List.mem_cons_self))]
    exact ih fun p hp => h p (List.mem_cons_of_mem _ hp)

theorem sorted_ext {l₁ l₂ : Pairs} (h₁ : Sorted l₁) (h₂ : Sorted l₂)
    (h : ∀ k, l₁.lookup k = l₂.lookup k) : l₁ = l₂ := by
  -- a head key below the other list's head key is found in one of the lists only
  have head : ∀ {k₁ v₁ t₁ k₂ v₂ t₂}, Sorted ((k₂, v₂) :: t₂) →
      List.lookup k₁ ((k₁, v₁) :: t₁) = List.lookup k₁ ((k₂, v₂) :: t₂) → ¬ k₁ < k₂ := by
    intro k₁ v₁ t₁ k₂ v₂ t₂ hs hk hlt
    rw [lookup_cons', lookup_cons', if_pos rfl, if_neg (String.ne_of_lt hlt),
      lookup_none_of_lt fun p hp => String.lt_trans hlt ((List.pairwise_cons.mp hs).1 p hp)] at hk
    cases hk
  induction l₁ generalizing l₂ with
  | nil =>
    cases l₂ with
    | nil => rfl
    | cons q _ => have := h q.1; rw [lookup_cons'] at this; simp at this
  | cons p t₁ ih =>
    obtain ⟨k₁, v₁⟩ := p
    cases l₂ with
    | nil => have := h k₁; rw [lookup_cons'] at this; simp at this
    | cons q t₂ =>
      obtain ⟨k₂, v₂⟩ := q
      have hs₁ := List.pairwise_cons.mp h₁
      have hs₂ := List.pairwise_cons.mp h₂
      obtain rfl : k₁ = k₂ :=
        ((Std.lt_trichotomy k₁ k₂).resolve_left (head h₂ (h k₁))).resolve_right (head h₁ (h k₂).symm)
      have hv := h k₁
      rw [lookup_cons', lookup_cons', if_pos rfl, if_pos rfl] at hv
      cases hv
      congr 1
      refine ih hs₁.2 hs₂.2 fun k => ?_
      by_cases hk : k = k₁
      · rw [hk, lookup_none_of_lt hs₁.1, lookup_none_of_lt hs₂.1]
      · have := h k
        rwa [lookup_cons', lookup_cons', if_neg hk, if_neg hk] at this

theorem foldl_insert (l : Pairs) (init : Pairs) (hs : Sorted init) :
    Sorted (l.foldl (fun acc (p : String × JVal) => insertSorted p.1 p.2 acc) init) ∧
    ∀ k, (l.foldl (fun acc (p : String × JVal) => insertSorted p.1 p.2 acc) init).lookup k =
      (match l.reverse.lookup k with
       | some v => some v
       | none => init.lookup k) := by
  induction l generalizing init with
  | nil => exact ⟨hs, fun k => by simp⟩
  | cons p rest ih =>
    obtain ⟨k₁, v₁⟩ := p
    have := ih (insertSorted k₁ v₁ init) (insertSorted_sorted _ _ _ hs)
    refine ⟨this.1, fun k => ?_⟩
    rw [List.foldl_cons, this.2 k, lookup_insertSorted, List.reverse_cons, List.lookup_append, lookup_cons']
    cases rest.reverse.lookup k with
    | some v => rfl
    | none => by_cases h : k = k₁ <;> simp [h]

theorem mem_foldl_insert {p : String × JVal} (l init : Pairs)
    (h : p ∈ l.foldl (fun acc (q : String × JVal) => insertSorted q.1 q.2 acc) init) : p ∈ init ∨ p ∈ l := by
  induction l generalizing init with
  | nil => exact .inl h
  | cons q rest ih =>
    rcases ih _ h with h | h
    · rcases mem_insertSorted h with rfl | h
      · exact .inr List.mem_cons_self
      · exact .inl h
    · exact .inr (List.mem_cons_of_mem _ h)

theorem mkObj_eq (l : Pairs) :
    JVal.mkObj l = .obj (l.foldl (fun acc (p : String × JVal) => insertSorted p.1 p.2 acc) []) := rfl

theorem mkObj_sorted_lookup (l : Pairs) :
    ∃ kvs, JVal.mkObj l = .obj kvs ∧ Sorted kvs ∧ ∀ k, kvs.lookup k = finalMap l k := by
  refine ⟨_, mkObj_eq l, (foldl_insert l [] (by simp [Sorted])).1, fun k => ?_⟩
  rw [(foldl_insert l [] (by simp [Sorted])).2 k, finalMap]
  cases l.reverse.lookup k <;> rfl

theorem mkObj_eq_iff (l₁ l₂ : Pairs) :
    JVal.mkObj l₁ = JVal.mkObj l₂ ↔ ∀ k, finalMap l₁ k = finalMap l₂ k := by
  obtain ⟨a, ha, hsa, hla⟩ := mkObj_sorted_lookup l₁
  obtain ⟨b, hb, hsb, hlb⟩ := mkObj_sorted_lookup l₂
  rw [ha, hb]
  constructor
  · intro h k
    injection h with h
    rw [← hla, ← hlb, h]
  · intro h
    have : a = b := sorted_ext hsa hsb fun k => by rw [hla, hlb, h]
    rw [this]

theorem lookup_eq_some_iff_mem {l : Pairs} (hn : (l.map Prod.fst).Nodup) (k : String) (v : JVal) :
    l.lookup k = some v ↔ (k, v) ∈ l := by
  induction l with
  | nil => simp
  | cons q rest ih =>
    obtain ⟨k₁, v₁⟩ := q
    simp only [List.map_cons, List.nodup_cons] at hn
    rw [lookup_cons']
    by_cases h : k = k₁
    · subst h
      simp only [if_true, List.mem_cons, Prod.mk.injEq, true_and, Option.some.injEq]
      constructor
      · intro e; exact .inl e.symm
      · rintro (e | e)
        · exact e.symm
        · exact absurd (List.mem_map.mpr ⟨(k, v), e, rfl⟩) hn.1
    · simp only [h, if_false, List.mem_cons, Prod.mk.injEq, false_and, false_or]
      exact ih hn.2

theorem nodup_reverse {l : List String} (h : l.Nodup) : l.reverse.Nodup := by
  unfold List.Nodup at *
  rw [List.pairwise_reverse]
  exact h.imp fun h => h.symm

theorem finalMap_perm {l₁ l₂ : Pairs} (hp : l₁.Perm l₂) (hn : (l₁.map Prod.fst).Nodup) (k : String) :
    finalMap l₁ k = finalMap l₂ k := by
  have hn₂ : (l₂.map Prod.fst).Nodup := (hp.map Prod.fst).nodup_iff.mp hn
  have hr₁ : (l₁.reverse.map Prod.fst).Nodup := by rw [List.map_reverse]; exact nodup_reverse hn
  have hr₂ : (l₂.reverse.map Prod.fst).Nodup := by rw [List.map_reverse]; exact nodup_reverse hn₂
  unfold finalMap
  have key : ∀ v, l₁.reverse.lookup k = some v ↔ l₂.reverse.lookup k = some v := by
    intro v
    rw [lookup_eq_some_iff_mem hr₁, lookup_eq_some_iff_mem hr₂, List.mem_reverse, List.mem_reverse]
    exact hp.mem_iff
  exact Option.ext key

end AquaProps.JsonObj
