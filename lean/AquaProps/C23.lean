import Aqua.Air.Parser
import AquaProps.Lemmas.Validator
import AquaProps.Lemmas.LexNoPanic
/-!
# C23 — the parser is total and accepts only well-scoped scripts

Model: `Aqua.Air.parse` (lexer `Aqua.Air.Lexer`, lens parser `Aqua.Air.LambdaParser`, grammar
`Aqua.Air.Parser`, validator `Aqua.Air.Validator`) — replicas of `air-parser` / `air-lambda-parser`.

The validator sees one *event* per reduced instruction (`SInstr.events`: children before parents,
left to right) and compares instruction spans: a use in an instruction with span `s` is
"defined" if a defining instruction of that name has a span `d < s` (`Span`'s order: the smaller
end is smaller) or a fold with that iterator has a span `f < s`.  Three things keep the property
from holding in full on the unchanged code; each is replayed on the real parser by the harness:

1. operand positions the validator never visits (`fail` operand, peer and source of `canon`, value of
   `ap` into a map, lenses of `%last_error%` / `:error:`);
2. `MultiMap::iter()` yields one `(key, first value)` pair per key, so `check_undefined_variables` /
   `check_undefined_iterables` check only the FIRST unresolved use of every name and the first
   `next` of every iterator;
3. an iterator counts as defined for everything that starts after its fold starts, not only inside it.
-/
namespace AquaProps.C23
open Aqua Aqua.Air Aqua.Air.VariableValidator

/-- a definition of `n` in an instruction that starts before the using instruction (span `sp`) -/
def DefinedBefore (es : List Event) (n : String) (sp : Span) : Prop :=
  ∃ d, (n, d) ∈ varDefsOf es ∧ d.lt sp = true

/-- a fold with iterator `n` that starts before the using instruction -/
def IteratorStartedBefore (es : List Event) (n : String) (sp : Span) : Prop :=
  ∃ f, (n, f) ∈ iterDefsOf es ∧ f.lt sp = true

/-- a fold with iterator `n` whose span contains the span `sp` -/
def InsideFoldOf (es : List Event) (n : String) (sp : Span) : Prop :=
  ∃ f, (n, f) ∈ iterDefsOf es ∧ f.containsSpan sp = true

theorem finalize_nil_parts {v : VariableValidator} (h : v.finalize = []) :
    v.checkUndefinedVariables = [] ∧ v.checkUndefinedIterables = [] := by
  unfold finalize at h
  simp only [List.append_eq_nil_iff] at h
  exact ⟨h.1.1.1.1.1.1, h.1.1.1.1.1.2⟩

/-- `check_undefined_variables` looks at the first unresolved use of every name -/
theorem checked_variable {v : VariableValidator} (h : v.checkUndefinedVariables = []) {k : String} {sp : Span}
    (hk : v.unresolvedVariables.get? k = some sp) : v.containsVariable k sp = true := by
  simpa using List.filterMap_eq_nil_iff.mp h (k, sp) (SpanMap.mem_firstPerKey_of_get? hk)

/-- `check_undefined_iterables` looks at the first `next` of every iterator -/
theorem checked_iterable {v : VariableValidator} (h : v.checkUndefinedIterables = []) {k : String} {sp : Span}
    (hk : v.unresolvedIterables.get? k = some sp) : (v.findClosestFoldSpan k sp).isSome = true := by
  have := List.filterMap_eq_nil_iff.mp h (k, sp) (SpanMap.mem_firstPerKey_of_get? hk)
  cases hc : v.findClosestFoldSpan k sp with
  | some _ => rfl
  | none => simp [hc] at this

theorem defined_of_containsVariable {es : List Event} {m : String} {sp : Span}
    (hc : (runFrom {} es).containsVariable m sp = true) : DefinedBefore es m sp ∨ IteratorStartedBefore es m sp := by
  rcases containsVariable_sound hc with ⟨d, hd, hlt⟩ | ⟨f, hf, hlt⟩
  · exact .inl ⟨d, (defs_runFrom {} es _ hd).resolve_left nofun, hlt⟩
  · rw [iters_runFrom] at hf
    exact .inr ⟨f, hf, hlt⟩

theorem scoped_of_finalize_nil {es pre post : List Event} {e : Event} (h : (run es).finalize = [])
    (hsplit : es = pre ++ e :: post) {n : String} (hn : n ∈ e.visitedUses) :
    DefinedBefore es n e.span ∨ IteratorStartedBefore es n e.span ∨ ∃ e' ∈ pre, n ∈ e'.visitedUses := by
  by_cases hearlier : ∃ e' ∈ pre, n ∈ e'.visitedUses
  · exact .inr (.inr hearlier)
  by_cases hc0 : (runFrom {} pre).containsVariable n e.span = true
  · -- resolved when met: by a definition or fold among `pre`
    rcases defined_of_containsVariable hc0 with ⟨d, hd, hlt⟩ | ⟨f, hf, hlt⟩
    · exact .inl ⟨d, by rw [hsplit, varDefsOf_append]; exact List.mem_append_left _ hd, hlt⟩
    · exact .inr (.inl ⟨f, by rw [hsplit, iterDefsOf_append]; exact List.mem_append_left _ hf, hlt⟩)
  · -- pushed to `unresolved_variables`; no entry before it has its name, so `finalize` checks it
    obtain ⟨suf0, hsuf0, hkeys0⟩ := unres_runFrom {} pre
    obtain ⟨suf2, hsuf2, _⟩ := unres_runFrom ((runFrom {} pre).step e) post
    have hrun : run es = runFrom ((runFrom {} pre).step e) post := by rw [run_eq, hsplit, runFrom_append]; rfl
    rw [← hrun, core_step, hsuf0] at hsuf2
    have hfirst : (run es).core.unres.get? n = some e.span := by
      rw [hsuf2]
      refine SpanMap.get?_append_of_some ?_ suf2
      refine (SpanMap.get?_append_of_ne (k := n) (fun p hp hpk => ?_) _).trans ?_
      · obtain ⟨e', he', h1, _⟩ := hkeys0 p hp
        exact hearlier ⟨e', he', hpk ▸ h1⟩
      · exact SpanMap.get?_map (List.mem_filter.mpr ⟨hn, by simpa using hc0⟩) _
    have hc2 := checked_variable (finalize_nil_parts h).1 hfirst
    exact (defined_of_containsVariable hc2).imp id .inl

/-- Well-scopedness at the visited operand positions (call triplet, call arguments,
match/mismatch operands, `ap` argument, key of `ap` into a map, fold iterables, and the scalars
their lenses index with).  If the validator reports nothing, then every such use, in an instruction
`e`, of a name `n`
* has a definition of `n` (call output, `ap` result, map of `ap`, `canon` result, `new`) in an
  instruction that starts earlier, or a fold with iterator `n` that starts earlier — or
* some instruction reduced before `e` also uses `n` at a visited position (only the first unresolved
  use of a name is checked: `MultiMap::iter`).
In particular the first reduced use of every name is well-scoped in this sense. -/
theorem C23_well_scoped_partial (ast : SInstr) (h : validate ast = [])
    (pre post : List Event) (e : Event) (hsplit : ast.events = pre ++ e :: post)
    (n : String) (hn : n ∈ e.visitedUses) :
    DefinedBefore ast.events n e.span ∨ IteratorStartedBefore ast.events n e.span ∨
      ∃ e' ∈ pre, n ∈ e'.visitedUses :=
  scoped_of_finalize_nil h hsplit hn

theorem next_in_fold_of_finalize_nil {es pre post : List Event} {sp : Span} {n : String} (h : (run es).finalize = [])
    (hsplit : es = pre ++ Event.next sp n :: post) : InsideFoldOf es n sp ∨ ∃ sp', Event.next sp' n ∈ pre := by
  by_cases hearlier : ∃ sp', Event.next sp' n ∈ pre
  · exact .inr hearlier
  have hfirst : (run es).unresolvedIterables.get? n = some sp := by
    have hit : (run es).unresolvedIterables = nextsOf es := unresIt_runFrom {} es
    rw [hit, hsplit, nextsOf_append, SpanMap.get?_append_of_ne (k := n)]
    · simp [nextsOf, SpanMap.get?]
    · intro p hp hpk
      obtain ⟨e', he', hpe⟩ := List.mem_filterMap.mp hp
      cases e' <;> cases hpe
      cases hpk
      exact hearlier ⟨_, he'⟩
  obtain ⟨f, hf, hcont⟩ := findClosestFoldSpan_sound (checked_iterable (finalize_nil_parts h).2 hfirst)
  rw [run_eq, iters_runFrom] at hf
  exact .inl ⟨f, hf, hcont⟩

/-- `next` inside its fold, as far as the validator establishes it: if the validator reports
nothing, every `next n` either lies inside the span of a fold with iterator `n`, or an earlier
reduced `next n` exists (only the first `next` of a name is checked: `MultiMap::iter`). -/
theorem C23_next_in_fold_partial (ast : SInstr) (h : validate ast = [])
    (pre post : List Event) (sp : Span) (n : String) (hsplit : ast.events = pre ++ Event.next sp n :: post) :
    InsideFoldOf ast.events n sp ∨ ∃ sp', Event.next sp' n ∈ pre :=
  next_in_fold_of_finalize_nil h hsplit

-- a non-trivial instance: this `next i` is the first `next i` and lies inside its fold
example : validate (.fold ⟨0, 30⟩ (.scalar .emptyArray) "i" (.seq ⟨11, 29⟩ (.null ⟨16, 22⟩) (.next ⟨23, 28⟩ "i"))) = [] := by decide

/-- consequence for scripts that use every name in at most one instruction before: the first use of
each name is always checked -/
theorem C23_first_use_well_scoped (ast : SInstr) (h : validate ast = [])
    (pre post : List Event) (e : Event) (hsplit : ast.events = pre ++ e :: post)
    (n : String) (hn : n ∈ e.visitedUses) (hfirst : ∀ e' ∈ pre, n ∉ e'.visitedUses) :
    DefinedBefore ast.events n e.span ∨ IteratorStartedBefore ast.events n e.span := by
  rcases C23_well_scoped_partial ast h pre post e hsplit n hn with h | h | ⟨e', he', hn'⟩
  · exact Or.inl h
  · exact Or.inr h
  · exact absurd hn' (hfirst e' he')

-- a non-trivial instance of the hypotheses: `(seq (call "p" ("s" "f") [] x) (call "p" ("s" "f") [x.$.[x]]))`
def exampleScript : SInstr :=
  .seq ⟨0, 62⟩ (.call ⟨5, 30⟩ (.literal "p") (.literal "s") (.literal "f") [] (.scalar "x"))
    (.call ⟨31, 61⟩ (.literal "p") (.literal "s") (.literal "f") [.scalarWL "x" (.path [.fieldByScalar "x"])] .none)
example : validate exampleScript = [] := by decide
example : exampleScript.events = [exampleScript.events[0]] ++ exampleScript.events[1] :: [exampleScript.events[2]] := by decide +kernel
example : "x" ∈ (exampleScript.events[1]).visitedUses := by decide
example : (match parse "(seq (call \"p\" (\"s\" \"f\") [] x) (call \"p\" (\"s\" \"f\") [x.$.[x]]))" with
    | .ok a => decide (a = exampleScript) | _ => false) = true := by decide +kernel

/-- every variable use in EVERY operand position has a definition in an instruction that starts
earlier or lies inside a fold with that iterator; every `next` lies inside a fold of its iterator -/
def WellScoped (ast : SInstr) : Prop :=
  (∀ e ∈ ast.events, ∀ n ∈ e.allUses, DefinedBefore ast.events n e.span ∨ InsideFoldOf ast.events n e.span) ∧
  (∀ sp n, Event.next sp n ∈ ast.events → InsideFoldOf ast.events n sp)

/-- C23, scoping part, at full strength.  NOT provable: see `C23_full_false`.  Missing relative to
`C23_well_scoped_partial` / `C23_next_in_fold_partial`: the unvisited operand positions, all but the
first unresolved use / `next` of a name, and containment (instead of order) for iterators. -/
def C23_full : Prop := ∀ ast : SInstr, validate ast = [] → WellScoped ast

/-- `(fail undefined)` -/
def witnessFail : SInstr := .fail ⟨0, 16⟩ (.scalar "undefined")
/-- `(canon undefined $s #c)` -/
def witnessCanonPeer : SInstr := .canon ⟨0, 23⟩ (.scalar "undefined") "$s" 17 "#c"
/-- `(ap ("k" undefined) %m)` -/
def witnessApMapValue : SInstr := .apMap ⟨0, 23⟩ (.literal "k") (.scalar "undefined") "%m" 20
/-- `(call "p" ("s" "f") [%last_error%.$.[undefined]])` -/
def witnessErrorLens : SInstr :=
  .call ⟨0, 49⟩ (.literal "p") (.literal "s") (.literal "f") [.lastError (some (.path [.fieldByScalar "undefined"]))] .none
/-- `(seq (call "p" ("s" "f") [] y) (seq (fold y i (seq (null) (next i))) (call i ("s" "f") [])))`:
the iterator is used after its fold -/
def witnessIteratorAfterFold : SInstr :=
  .seq ⟨0, 92⟩ (.call ⟨5, 30⟩ (.literal "p") (.literal "s") (.literal "f") [] (.scalar "y"))
    (.seq ⟨31, 91⟩
      (.fold ⟨36, 68⟩ (.scalar (.scalar "y")) "i" (.seq ⟨46, 67⟩ (.null ⟨51, 57⟩) (.next ⟨58, 66⟩ "i")))
      (.call ⟨69, 90⟩ (.scalar "i") (.literal "s") (.literal "f") [] .none))
/-- `(seq (call "p" ("s" "f") [] y) (match x 1 (fold y x (seq (call x ("s" "f") []) (next x)))))`:
`x` is undefined at the `match`, but the use inside the fold was pushed first -/
def witnessFirstUseOnly : SInstr :=
  .seq ⟨0, 91⟩ (.call ⟨5, 30⟩ (.literal "p") (.literal "s") (.literal "f") [] (.scalar "y"))
    (.match_ ⟨31, 90⟩ (.scalar "x") (.number 1)
      (.fold ⟨42, 89⟩ (.scalar (.scalar "y")) "x"
        (.seq ⟨52, 88⟩ (.call ⟨57, 78⟩ (.scalar "x") (.literal "s") (.literal "f") [] .none) (.next ⟨79, 87⟩ "x"))))
/-- `(seq (call "p" ("s" "f") [] y) (seq (fold y i (seq (null) (next i))) (next i)))`: `next` outside its fold -/
def witnessNextOutside : SInstr :=
  .seq ⟨0, 79⟩ (.call ⟨5, 30⟩ (.literal "p") (.literal "s") (.literal "f") [] (.scalar "y"))
    (.seq ⟨31, 78⟩
      (.fold ⟨36, 68⟩ (.scalar (.scalar "y")) "i" (.seq ⟨46, 67⟩ (.null ⟨51, 57⟩) (.next ⟨58, 66⟩ "i")))
      (.next ⟨69, 77⟩ "i"))

/-- the witnesses are what the model parser returns for the texts (the harness replays the same texts
on the real parser: `harness/src/props/c23gen.rs::witnesses`) -/
def parsesTo (text : String) (w : SInstr) : Bool := match parse text with | .ok a => decide (a = w) | _ => false
example : parsesTo "(fail undefined)" witnessFail = true := by decide +kernel
example : parsesTo "(canon undefined $s #c)" witnessCanonPeer = true := by decide +kernel
example : parsesTo "(ap (\"k\" undefined) %m)" witnessApMapValue = true := by decide +kernel
example : parsesTo "(call \"p\" (\"s\" \"f\") [%last_error%.$.[undefined]])" witnessErrorLens = true := by decide +kernel
example : parsesTo "(seq (call \"p\" (\"s\" \"f\") [] y) (seq (fold y i (seq (null) (next i))) (call i (\"s\" \"f\") [])))" witnessIteratorAfterFold = true := by decide +kernel
example : parsesTo "(seq (call \"p\" (\"s\" \"f\") [] y) (match x 1 (fold y x (seq (call x (\"s\" \"f\") []) (next x)))))" witnessFirstUseOnly = true := by decide +kernel
example : parsesTo "(seq (call \"p\" (\"s\" \"f\") [] y) (seq (fold y i (seq (null) (next i))) (next i)))" witnessNextOutside = true := by decide +kernel

/-- a tree is not well-scoped because of the use of `n` in its event `e` (the hypothesis is decidable) -/
theorem not_wellScoped_of_use (w : SInstr) (e : Event) (n : String)
    (h : e ∈ w.events ∧ n ∈ e.allUses ∧ (varDefsOf w.events).all (fun p => !(p.1 == n && p.2.lt e.span)) = true ∧
      (iterDefsOf w.events).all (fun p => !(p.1 == n && p.2.containsSpan e.span)) = true) : ¬ WellScoped w := by
  obtain ⟨he, hn, hdef, hit⟩ := h
  intro hw
  rcases hw.1 e he n hn with ⟨d, hd, hlt⟩ | ⟨f, hf, hc⟩
  · simpa [hlt] using List.all_eq_true.mp hdef _ hd
  · simpa [hc] using List.all_eq_true.mp hit _ hf

theorem gap_unvisited_fail_operand : validate witnessFail = [] ∧ ¬ WellScoped witnessFail :=
  ⟨by decide +kernel, not_wellScoped_of_use _ (.fail ⟨0, 16⟩ (.scalar "undefined")) "undefined" (by decide +kernel)⟩

theorem gap_unvisited_canon_peer : validate witnessCanonPeer = [] ∧ ¬ WellScoped witnessCanonPeer :=
  ⟨by decide +kernel, not_wellScoped_of_use _ (.canon ⟨0, 23⟩ (.scalar "undefined") "$s" "#c") "undefined" (by decide +kernel)⟩

theorem gap_unvisited_apmap_value : validate witnessApMapValue = [] ∧ ¬ WellScoped witnessApMapValue :=
  ⟨by decide +kernel, not_wellScoped_of_use _ (.apMap ⟨0, 23⟩ (.literal "k") (.scalar "undefined") "%m") "undefined" (by decide +kernel)⟩

theorem gap_unvisited_error_lens : validate witnessErrorLens = [] ∧ ¬ WellScoped witnessErrorLens :=
  ⟨by decide +kernel, not_wellScoped_of_use _
    (.call ⟨0, 49⟩ (.literal "p") (.literal "s") (.literal "f") [.lastError (some (.path [.fieldByScalar "undefined"]))] .none)
    "undefined" (by decide +kernel)⟩

theorem gap_iterator_after_fold : validate witnessIteratorAfterFold = [] ∧ ¬ WellScoped witnessIteratorAfterFold :=
  ⟨by decide +kernel, not_wellScoped_of_use _ (.call ⟨69, 90⟩ (.scalar "i") (.literal "s") (.literal "f") [] .none) "i" (by decide +kernel)⟩

theorem gap_first_use_only : validate witnessFirstUseOnly = [] ∧ ¬ WellScoped witnessFirstUseOnly :=
  ⟨by decide +kernel, not_wellScoped_of_use _ (.match_ ⟨31, 90⟩ (.scalar "x") (.number 1)) "x" (by decide +kernel)⟩

theorem gap_next_outside_fold : validate witnessNextOutside = [] ∧ ¬ WellScoped witnessNextOutside := by
  refine ⟨by decide +kernel, fun hw => ?_⟩
  obtain ⟨f, hf, hc⟩ := hw.2 ⟨69, 77⟩ "i" (by decide +kernel)
  have hall : (iterDefsOf witnessNextOutside.events).all (fun p => !(p.1 == "i" && p.2.containsSpan ⟨69, 77⟩)) = true := by decide +kernel
  have := List.all_eq_true.mp hall _ hf
  simp [hc] at this

/-- The full scoping property does not hold for the validator (hence not for the parser:
every witness is a text the real `air_parser::parse` accepts). -/
theorem C23_full_false : ¬ C23_full := fun h => gap_unvisited_fail_operand.2 (h _ gap_unvisited_fail_operand.1)

theorem noErrorNode_of_errorNodes (i : SInstr) (h : i.errorNodes = 0) : i.noErrorNode = true := by
  induction i with
  | seq _ l r ihl ihr | par _ l r ihl ihr | xor _ l r ihl ihr | foldLast _ _ _ l r ihl ihr =>
    obtain ⟨hl, hr⟩ := Nat.add_eq_zero_iff.mp h
    exact Bool.and_eq_true_iff.mpr ⟨ihl hl, ihr hr⟩
  | match_ _ _ _ i ih | mismatch _ _ _ i ih | new _ _ i ih | fold _ _ _ i ih => exact ih h
  | error => cases h
  | _ => rfl

/-- The end of `air_parser::parse`, for whatever syntax tree the LALRPOP run returns: the
recovery action `! => { errors.push(<>); Instruction::Error }` is the only constructor of
`Instruction::Error` (checked on the grammar source by `tools/gen_tables.py`), `errors` also
receives the validator's errors, and `Ok(r)` is returned only if `errors.is_empty()`.  Hence an
accepted tree has no error node, the validator found nothing, and the tree has a span-free form. -/
theorem C23_no_error_nodes (r ast : SInstr) (h : finishParse r = .ok ast) :
    ast = r ∧ ast.noErrorNode = true ∧ validate ast = [] ∧ ast.erase.isSome = true := by
  unfold finishParse at h
  simp only at h
  split at h
  · rename_i hc
    cases h
    simp only [Bool.and_eq_true, beq_iff_eq, List.isEmpty_iff] at hc
    have hn := noErrorNode_of_errorNodes r hc.1
    exact ⟨rfl, hn, hc.2, SInstr.erase_isSome_of_noErrorNode r hn⟩
  · split at h <;> cases h

example : (finishParse exampleScript).isOk = true := by decide
-- a tree with a recovered error is never returned, whatever the validator says
example : (finishParse (.seq ⟨0, 10⟩ .error (.null ⟨4, 9⟩))).isOk = false := by decide

/-- the same for the model's `parse` of a text -/
theorem C23_accepted_text (text : String) (ast : SInstr) (h : parse text = .ok ast) :
    ast.noErrorNode = true ∧ validate ast = [] := by
  unfold parse parseChars at h
  simp only at h
  split at h
  · split at h
    · exact ⟨(C23_no_error_nodes _ _ h).2.1, (C23_no_error_nodes _ _ h).2.2.1⟩
    · split at h <;> cases h
  · split at h <;> cases h
  · split at h <;> cases h

/-- `parse` is a total Lean function into `ok ast | error e | panic site` (every loop of the lexers and
of the recogniser runs on fuel bounded by the text length), and an `ok` result is a complete tree the
validator accepts — true by construction.  That the `panic` case never happens is `C23_totality_full`. -/
theorem C23_parse_total (text : String) :
    (∃ ast, parse text = .ok ast ∧ ast.noErrorNode = true ∧ validate ast = []) ∨
    (∃ e, parse text = .error e) ∨ (∃ site, parse text = .panic site) := by
  cases h : parse text with
  | ok ast => exact Or.inl ⟨ast, rfl, C23_accepted_text text ast h⟩
  | error e => exact Or.inr (Or.inl ⟨e, rfl⟩)
  | panic s => exact Or.inr (Or.inr ⟨s, rfl⟩)

/-- Totality, at full strength: no text makes the parser model panic.  The Rust code indexes
`str`s by byte ranges at three places — `tokenize_until` of the lens lexer (`&input[start_offset..]`,
`&input[start_offset..end_pos]`), `parse_error` (`&input[token_wo_lens_len..]`) and
`try_to_variable_and_lambda` (`[lambda_start_offset..]`, `[0..lambda_start_offset]`); the model keeps
each of them as the checked `Lex.sliceBytes` (`none` = the panic of `str` indexing) and this theorem
shows that every one is taken between two character boundaries, for every text.  The number
conversions return `Err`; the position arithmetic is modelled over `Nat` (its three subtractions —
`pos_in_string_to_parse() - 1`, `len() - 1`, `pos - start_pos` — sit behind guards `offset ≥ 1` /
non-empty token; that is by inspection, not part of this theorem).  Consequently the unmodelled outcome "syntax error, then possibly a lexer panic
while LALRPOP recovers" (`ParseError.syntaxThenPanic`) does not arise either.
Before the repair 5981066 of `tokenize_until` (`[start_offset..end_pos + 1]`) this was false:
`(call "p" ("s" "f") [x.$.é])` panicked, in the code and in the model.
No other panic path remains in the model; outside the model are LALRPOP's automaton/recovery, the report
rendering (codespan) and stack exhaustion on very deep nesting (property C01). -/
theorem C23_totality_full (text : String) :
    (parse text).isPanic = false ∧ ∀ s, parse text ≠ .error (.syntaxThenPanic s) :=
  parseChars_noPanic text.toList

/-- regression of the repaired defect: a non-ASCII alphanumeric is an ordinary part of a lens field name -/
example : parsesTo "(seq (call \"p\" (\"s\" \"f\") [] x) (call \"p\" (\"s\" \"f\") [x.$.é.aé٣b.[0]]))"
    (.seq ⟨0, 72⟩ (.call ⟨5, 30⟩ (.literal "p") (.literal "s") (.literal "f") [] (.scalar "x"))
      (.call ⟨31, 71⟩ (.literal "p") (.literal "s") (.literal "f")
        [.scalarWL "x" (.path [.fieldByName "é", .fieldByName "aé٣b", .arrayAccess 0])] .none)) = true := by decide +kernel
-- the former panic witness itself is now rejected by the validator only (`x` is undefined)
example : (match parse "(call \"p\" (\"s\" \"f\") [x.$.é])" with | .error (.validator _) => true | _ => false) = true := by decide +kernel

end AquaProps.C23
