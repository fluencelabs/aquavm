import AquaProps.Lemmas.NetLift
import AquaProps.C06
/-!
# C06 along whole histories (`Aqua.Net`)

`C06.lean` proves freshness for one run with arbitrary inputs and, abstractly, for a chain of runs whose
counters are handed on (`Chained`, `C06_history_fresh`).  Here the chain is *derived* from the behaviour
of honest hosts: in every state reachable in the network model (any script, any services, any schedule
of deliveries, duplicated deliveries and late or batched answers) the request ids a peer's host has ever
been handed are strictly increasing — no id is ever issued twice on a peer.
-/
namespace AquaProps.C06
open Aqua Aqua.Exec Aqua.Air Aqua.Net AquaProps AquaProps.NetLift

def runIds (r : Run) : RunIds := ⟨r.prev.lcid, r.requests.map (·.1), r.newData.lcid⟩

theorem genuine_runIds {env : Env} {P : Particle} {r : Run} (hg : Genuine env P r) :
    (∀ i ∈ (runIds r).ids, (runIds r).before < i ∧ i ≤ (runIds r).after) ∧ (runIds r).ids.Pairwise (· < ·) ∧
    (runIds r).before ≤ (runIds r).after := by
  have hfresh := C06_ids_fresh env r.fuel P.script r.prev r.cur (params P r) r.results
  unfold finalCtx at hfresh
  rw [← hg.frame.reqs, ← hg.frame.lcid] at hfresh
  obtain ⟨h1, h2, h3⟩ := hfresh
  unfold runIds Run.requests Run.newData
  cases hacc : accepted r.res with
  | true =>
    simp only [if_true]
    refine ⟨?_, h2, h3⟩
    intro i hi
    obtain ⟨x, hx, rfl⟩ := List.mem_map.mp hi
    exact h1 x hx
  | false =>
    simp only [Bool.false_eq_true, if_false, List.map_nil]
    exact ⟨fun i hi => (by cases hi), List.Pairwise.nil, Nat.le_refl _⟩

theorem chained_of_chainedFrom {env : Env} {P : Particle} : ∀ (rs : List Run) (d : DataIn),
    (∀ r ∈ rs, Genuine env P r) → ChainedFrom d rs → Chained d.lcid (rs.map runIds)
  | [], _, _, _ => trivial
  | r :: rs, d, hg, hc => by
    obtain ⟨hp, hrest⟩ := hc
    have h := genuine_runIds (hg r (List.mem_cons_self ..))
    have hb : (runIds r).before = d.lcid := by show r.prev.lcid = d.lcid; rw [hp]
    rw [hb] at h
    refine ⟨hb, h.1, h.2.1, h.2.2, ?_⟩
    exact chained_of_chainedFrom rs r.newData (fun x hx => hg x (List.mem_cons_of_mem _ hx)) hrest

/-- No request id is ever issued twice on a peer, along any honest history: in every reachable state
of the network, the ids handed to the host of `q` by all runs of `q` so far, in order, are strictly
increasing. -/
theorem C06_network_ids_fresh (env : Env) (svc : Services) (P : Particle) (st : NetSt)
    (h : Reachable env svc P st) (q : String) :
    ((runsOf st q).flatMap fun r => r.requests.map (·.1)).Pairwise (· < ·) := by
  have inv := reachable_inv h
  have hg : ∀ r ∈ runsOf st q, Genuine env P r := fun r hr => inv.genuine r (List.mem_filter.mp hr).1
  have hc := chained_of_chainedFrom (runsOf st q) {} hg (inv.chained q)
  have := C06_history_fresh _ _ hc
  simpa [List.flatMap_map, runIds] using this

/-- the counter a host stores never decreases -/
theorem C06_network_counter_bounds (env : Env) (svc : Services) (P : Particle) (st : NetSt)
    (h : Reachable env svc P st) (q : String) :
    ∀ r ∈ runsOf st q, r.prev.lcid ≤ r.newData.lcid := by
  intro r hr
  have inv := reachable_inv h
  exact (genuine_runIds (inv.genuine r (List.mem_filter.mp hr).1)).2.2

end AquaProps.C06
