import AquaProps.Lemmas.PanicExecTop
import AquaProps.Lemmas.VerifyData
import Aqua.Gen.PanicSites
/-!
# C01 — the interpreter never crashes or runs out of memory on adversarial input

Panics are VALUES of the model (`Res.panic site`, DESIGN.md §4.2): every `unwrap`/`expect`/`unreachable!`/index/
unchecked `u32` arithmetic that the Rust code performs on the modelled paths is a branch returning the
site's name.  "Never panics" is therefore a statement about the model.  State after the repairs in /repo
(0e86aa7 … d774f34: error_code, scalar/iterator clash, non-JSON raw value, absent trace CID, `try_get_generation`,
`set_position_and_len`, `set_subtrace_len`): the property is still FALSE — four sites are reached by adversarial
CURRENT data (the three `argument_hash` unwraps of `handle_prev_state`, `checked_add(1).unwrap()` on a generation
`u32::MAX`), two more only by previous data the interpreter never produces (request counter `u32::MAX`; a non-JSON
value text, which preparation now rejects in current data).
-/
namespace AquaProps.C01
open Aqua Aqua.Exec Aqua.Air Aqua.Trace Aqua.Json Aqua.Data AquaProps.Panic

/-- the literal list (22 sites): witnessed sites first, then the sites guarded by internal invariants (see
`Panic.execWitnessedSites` / `Panic.execResidualSites`) -/
def modelledExecPanicSites : List String := Panic.execPanicSites

/-- The only ways the execution stage of the model can panic are the listed sites. -/
theorem C01_exec_panic_sites_partial (env : Env) (fuel : Nat) (script : Instr) (prev cur : DataIn) (p : RunParams)
    (results : List (String × CallServiceResult)) (s : String)
    (h : (runExec env fuel script prev cur p results).1 = .panic s) : s ∈ modelledExecPanicSites :=
  (exec_panic_sites (L := execPanicSites) env fuel script (initCtx prev cur p results)).1 s h

theorem runExecFarewell_panic (env : Env) (fuel : Nat) (script : Instr) (prev cur : DataIn) (p : RunParams)
    (results : List (String × CallServiceResult)) (s : String)
    (h : (runExecFarewell env fuel script prev cur p results).1 = .panic s) :
    (runExec env fuel script prev cur p results).1 = .panic s := by
  unfold runExecFarewell at h
  generalize runExec env fuel script prev cur p results = r at h
  obtain ⟨res, c⟩ := r
  have hC := (compactifyStreams_in c).ne_panic
  dsimp only at h
  split at h
  iterate 2
    split at h
    · exact h
    · cases h
    · exact absurd ‹_› (hC _)
  exact h

/-- the same including the farewell step's stream compaction -/
theorem C01_exec_farewell_panic_sites_partial (env : Env) (fuel : Nat) (script : Instr) (prev cur : DataIn) (p : RunParams)
    (results : List (String × CallServiceResult)) (s : String)
    (h : (runExecFarewell env fuel script prev cur p results).1 = .panic s) : s ∈ modelledExecPanicSites :=
  C01_exec_panic_sites_partial env fuel script prev cur p results s (runExecFarewell_panic env fuel script prev cur p results s h)

/-- Guarded version: if the JSON reader of the environment accepts every text (in particular every raw value
of the content-id stores — the guard excludes exactly the input class "a stored value that is not JSON"), the
raw-value site cannot be reached; the remaining sites are the other listed ones. -/
theorem C01_exec_no_panic_partial (env : Env) (hjson : ∀ t, (env.parseJson t).isSome = true) (fuel : Nat) (script : Instr)
    (prev cur : DataIn) (p : RunParams) (results : List (String × CallServiceResult)) (s : String)
    (h : (runExec env fuel script prev cur p results).1 = .panic s) :
    s ∈ modelledExecPanicSites ∧ s ≠ "raw_value.rs:get_value:expect(TODO handle error)" := by
  haveI : RawOk env execSitesBase := ⟨.inl hjson⟩
  have hb := (exec_panic_sites (L := execSitesBase) env fuel script (initCtx prev cur p results)).1 s h
  refine ⟨List.mem_of_mem_erase hb, ?_⟩
  rintro rfl
  simp [execSitesBase_eq, execWitnessedSites, execResidualSites] at hb

/-- The guard of `C01_exec_no_panic_partial` is established by preparation for CURRENT data (since /repo 7eb402e):
`CidInfo::verify` rejects a value-store text that `serde_json::from_str` rejects (`MalformedValue`), so after a
successful verification every stored value of the current data parses.  (Previous data is the peer's own output: its
texts are renderings of parsed values; values added during the run are renderings too.) -/
theorem C01_raw_value_guard_established_by_preparation (E : Run.VerifyEnv) (env : Env)
    (hE : ∀ t, E.isJson t = (env.parseJson t).isSome) (ci : Run.CidInfo) (h : ci.verify E = .ok ()) :
    ∀ cid raw, (cid, raw) ∈ ci.values → (env.parseJson raw).isSome = true := by
  intro cid raw hm
  rw [← hE]
  exact (AquaProps.VerifyLemmas.verify_ok h).valueJson cid raw hm

/-- every site string used in the theorems is claimed, in `sites/panic_sites.json`, by a panic site that the
translator scanned in the Rust code of this check's repository -/
theorem C01_sites_claimed_by_inventory : ∀ s ∈ modelledExecPanicSites, s ∈ Gen.modelledPanicSites := by
  simp only [modelledExecPanicSites, execPanicSites, execWitnessedSites, execResidualSites, List.cons_append, List.nil_append,
    List.forall_mem_cons]
  simp only [Gen.modelledPanicSites, List.mem_cons, true_or, or_true, and_self, List.not_mem_nil, false_imp_iff, implies_true]

/-- Full statement (not provable on the unchanged tree — its negation is witnessed below): no input makes
any public entry point panic, abort or allocate out of proportion.  Missing from the partial theorems: the
guards for the other witnessed sites need invariants of the run (they are given locally as `…_panics_iff`);
the residual sites need the executor's internal invariants; the preparation and verification stages (modelled for
C14 in `Aqua/Run/VerifyData.lean`, panic-free since b547c87), the parser, the pretty-printer and the beautifier are
outside `runExecFarewell`; stack and heap exhaustion are run-time facts that no model exhibits — they are
measured on the process by the harness (child process, RLIMIT_AS, counting allocator). -/
def C01_full : Prop :=
  ∀ (env : Env) (fuel : Nat) (script : Instr) (prev cur : DataIn) (p : RunParams) (results : List (String × CallServiceResult)),
    (runExecFarewell env fuel script prev cur p results).1.isPanic = false

theorem C01_issueRequest_panics_iff (t : Tetraplet) (args : List Value) (c : Ctx) (vs : List JVal) (tss : List (List Tetraplet))
    (hargs : collectArgs c args = .ok (vs, tss)) :
    issueRequest t args c = .panic "context.rs:next_call_request_id:last_call_request_id+=1" ↔ c.lastCallRequestId ≥ u32Max := by
  unfold issueRequest
  rw [hargs]
  simp only
  split
  · simp; omega
  · simp; omega

/-- `Scalars::get_value` never panics (66d8bd2) … -/
theorem C01_getValue_never_panics (s : Scalars) (name site : String) : s.getValue name ≠ .panic site :=
  (sc_getValue s name).ne_panic site

/-- … and a name bound both as a visible scalar and as a fold iterator is the uncatchable `IterableShadowing`
(it was `unreachable!()`) -/
theorem C01_getValue_clash_is_error (s : Scalars) (name : String) (v : ValueAggregate) (kf : String × FoldState)
    (hv : s.nonIterable.getValue name = .ok (some v)) (hi : s.iterable.find? (fun (k, _) => k == name) = some kf) :
    s.getValue name = .error (.uncatchable (.iterableShadowing name)) := by
  unfold Scalars.getValue
  simp [hv, hi, uncatchable]

/-- `check_error_object` never panics (0e86aa7) … -/
theorem C01_checkErrorObject_never_panics (v : JVal) (s : String) : checkErrorObject v ≠ .panic s :=
  (checkErrorObject_in v).ne_panic s

/-- … an `error_code` above `i64::MAX` is rejected as "must have integer type" -/
theorem C01_checkErrorObject_big_code_rejected (kvs : List (String × JVal)) (n : Int)
    (hf : (JVal.obj kvs).getField "error_code" = some (.num n)) (hgt : n > 9223372036854775807) :
    checkErrorObject (.obj kvs) = .error (.scalarFieldIsWrongType (.obj kvs) "error_code" "integer") := by
  unfold checkErrorObject
  simp only [hf]
  simp [hgt]

theorem C01_addValueToGeneration_panics_iff (m : ValuesMatrix) (v : ValueAggregate) (g : Nat) (s : String) :
    m.addValueToGeneration v g = .panic s ↔
      (g ≥ m.values.length ∧ g ≥ u32Max) ∧ s = "values_matrix.rs:add_value_to_generation:generation_idx.checked_add(1).unwrap()" := by
  unfold ValuesMatrix.addValueToGeneration
  split
  · rename_i h; constructor
    · intro hs; cases hs; exact ⟨h, rfl⟩
    · rintro ⟨_, rfl⟩; rfl
  · rename_i h; constructor
    · intro hs; cases hs
    · rintro ⟨h', _⟩; exact absurd h' h

/-- `set_position_and_len` never panics (95e5498): a position + length beyond `u32::MAX` is "out of the trace" -/
theorem C01_setPositionAndLen_never_panics (sl : TraceSlider) (pos len : Nat) (s : String) :
    sl.setPositionAndLen pos len ≠ .panic s := (setPositionAndLen_in sl pos len).ne_panic s

theorem C01_setPositionAndLen_overflow_is_error (sl : TraceSlider) (pos len : Nat) (hl : len ≠ 0) (ho : pos + len > u32Max) :
    sl.setPositionAndLen pos len = .error .setSubtraceLenAndPosFailed := by
  unfold TraceSlider.setPositionAndLen
  simp [hl, ho]

/-- `set_subtrace_len` never panics (d774f34): a position beyond the trace leaves a remainder of 0 -/
theorem C01_setSubtraceLen_never_panics (sl : TraceSlider) (len : Nat) (s : String) : sl.setSubtraceLen len ≠ .panic s :=
  (setSubtraceLen_in sl len).ne_panic s

/-- `try_get_generation` never panics (8502764): an `ap` state without generations is `NoStreamState` -/
theorem C01_tryGetGeneration_never_panics (sl : TraceSlider) (pos : Nat) (s : String) : tryGetGeneration sl pos ≠ .panic s :=
  (tryGetGeneration_in sl pos).ne_panic s

theorem C01_tryGetGeneration_empty_ap_is_error (sl : TraceSlider) (pos : Nat) (h : sl.stateAtPosition pos = some (.ap [])) :
    tryGetGeneration sl pos = .error .noStreamState := by
  unfold tryGetGeneration
  simp [h]

/-! ## witnesses: each of these sites IS reached (the proved negation of "never panics")

`env0` hashes by identity and parses three texts; peer `a` runs data sent by peer `b`.  Every run below is a
closed computation: `exec`'s equations are unfolded (`simp only`), the rest is evaluated by the kernel (`rfl`). -/

def env0 : Env := { hash := fun s => s, parseJson := fun s =>
  if s == "1" then some (.num 1) else if s == "[1,2]" then some (.arr [.num 1, .num 2])
  else if s == "E" then some (JVal.mkObj [("error_code", .num 18446744073709551615), ("message", .str "")]) else none }
def p0 : RunParams := { initPeerId := "b", currentPeerId := "a", timestamp := 0, ttl := 0 }
def lit (s : String) : Value := .literal s
/-- consistent stores for one service result `c` of peer `b` (call `("s" "f")` without arguments) whose value text is `raw` -/
def stores (raw : String) : CidState :=
  { values := [("v", raw)], tetraplets := [("t", ⟨"b", "s", "f", ""⟩)], serviceResults := [("c", ⟨"v", "[]", "t"⟩)] }
def callB (out : CallOutput) : Instr := .call (lit "b") (lit "s") (lit "f") [] out

/-- 1. a stored value that is not JSON (`RawValue::get_value`) -/
example : (runExec env0 1 (callB (.scalar "x")) {} { trace := [.call (.executed (.scalar "c"))], cid := stores "not json" } p0 []).1
    = .panic "raw_value.rs:get_value:expect(TODO handle error)" := by
  simp only [runExec, callB, exec]; rfl

/-- 2.–4. a recorded state for a call whose argument `x` is still undefined on the receiver -/
def sUnres : Instr := .par (callB (.scalar "x")) (.call (lit "a") (lit "s") (lit "g") [.scalar "x"] (.scalar "y"))
def dUnres (st : ExecutedState) : DataIn := { trace := [.par 1 1, .call (.requestSentBy (.peerId "b")), st], cid := stores "1" }
example : (runExec env0 2 sUnres {} (dUnres (.call (.executed (.scalar "c")))) p0 []).1
    = .panic "prev_result_handler.rs:handle_prev_state:argument_hash.unwrap()(Executed)" := by
  simp only [runExec, sUnres, callB, exec, execInner, execSubgraph]; rfl
example : (runExec env0 2 sUnres {} (dUnres (.call (.failed "c"))) p0 []).1
    = .panic "prev_result_handler.rs:handle_prev_state:argument_hash.unwrap()(Failed)" := by
  simp only [runExec, sUnres, callB, exec, execInner, execSubgraph]; rfl
example : (runExec env0 2 sUnres {} (dUnres (.call (.requestSentBy (.peerIdWithCallId "a" 1)))) p0 [("1", ⟨0, "1"⟩)]).1
    = .panic "prev_result_handler.rs:handle_prev_state:argument_hash.expect(Result for joinable error)" := by
  simp only [runExec, sUnres, callB, exec, execInner, execSubgraph]; rfl

/-- 5. the request counter at `u32::MAX` (comes from PREVIOUS data only) -/
example : (runExec env0 1 (.call (lit "a") (lit "s") (lit "f") [] (.scalar "x")) { lcid := 4294967295 } {} p0 []).1
    = .panic "context.rs:next_call_request_id:last_call_request_id+=1" := by
  simp only [runExec, exec]; rfl

/-- REPAIRED (66d8bd2): a scalar and a fold iterator with the same name (an ordinary script, honest data: the second run)
now ends in the uncatchable `IterableShadowing` -/
def sClash : Instr :=
  .seq (.call (lit "a") (lit "s") (lit "arr") [] (.scalar "x"))
       (.foldScalar (.scalar "x") "x" (.seq (.call (lit "a") (lit "s") (lit "id") [.scalar "x"] .none) (.next "x")) none)
example : (runExec env0 4 sClash { trace := [.call (.requestSentBy (.peerIdWithCallId "a" 1))], lcid := 1 } {} p0 [("1", ⟨0, "[1,2]"⟩)]).1
    = .error (.uncatchable (.iterableShadowing "x")) := by
  simp only [runExec, sClash, exec, execInner]; rfl

/-- REPAIRED (0e86aa7): `(fail x)` with `error_code` above `i64::MAX` is the catchable `InvalidErrorObjectError`
("error_code … must have integer type") -/
def sFail : Instr := .seq (.call (lit "a") (lit "s") (lit "f") [] (.scalar "x")) (.fail (.scalar "x"))
def isWrongErrorCodeType : Res ExecErr Unit → Bool
  | .error (.catchable (.invalidErrorObjectError (.scalarFieldIsWrongType _ "error_code" "integer"))) => true
  | _ => false
example : isWrongErrorCodeType
    (runExec env0 2 sFail { trace := [.call (.requestSentBy (.peerIdWithCallId "a" 1))], lcid := 1 } {} p0 [("1", ⟨0, "E"⟩)]).1 = true := by
  simp only [runExec, sFail, exec, execInner]; rfl

/-- 6. a stream value recorded with generation `u32::MAX` -/
example : (runExec env0 1 (callB (.stream "$s" 1)) {} { trace := [.call (.executed (.stream "c" 4294967295))], cid := stores "1" } p0 []).1
    = .panic "values_matrix.rs:add_value_to_generation:generation_idx.checked_add(1).unwrap()" := by
  simp only [runExec, callB, exec]; rfl

/-- REPAIRED (8502764, 95e5498, d774f34): hostile fold lore in the data of a stream fold.  A value position naming an `ap`
state without generations is now the uncatchable `TraceError` (`NoStreamState`); the lore positions are shown on the
trace handler below (the fold loops of `exec` are well-founded recursions the kernel does not unfold under a binder) -/
def sFold (body : Instr) : Instr := .seq (callB (.stream "$s" 1)) (.foldStream "$s" 1 "i" body none 0)
def bodySeq : Instr := .seq (.call (lit "a") (lit "s") (lit "id") [.scalar "i"] (.scalar "y")) (.next "i")
def bodyPar : Instr := .par (.call (lit "a") (lit "s") (lit "id") [.scalar "i"] (.scalar "y")) (.next "i")
def dFold (lore : List FoldSubTraceLore) (rest : Trace) : DataIn :=
  { trace := [.call (.executed (.stream "c" 0)), .fold lore] ++ rest, cid := stores "1" }

def isNoStreamStateTraceError : Res ExecErr Unit → Bool
  | .error (.uncatchable (.traceError (.merge (.keeper .noStreamState)) _)) => true
  | _ => false
example : isNoStreamStateTraceError (runExec env0 3 (sFold bodySeq) {} (dFold [⟨2, [⟨3, 0⟩, ⟨3, 0⟩]⟩] [.ap []]) p0 []).1 = true := by
  simp only [runExec, sFold, callB, exec, execInner]; rfl

inductive TraceOp
  | callStart | callEnd (c : CallResult) | apStart | apEnd (gens : List Nat) | canonStart | canonEnd (c : CanonResult)
  | parStart | parEnd (t : SubgraphType)
  | foldStart (id : Nat) | iterStart (id pos : Nat) | iterEnd (id : Nat) | backIter (id : Nat) | genEnd (id : Nat) | foldEnd (id : Nat)
  | updateGeneration (pos gen : Nat)

/-- one call of a `TraceHandler` entry point (answers are dropped; a failed `update_generation` leaves the handler unchanged) -/
def applyOp (h : TraceHandler) : TraceOp → TR TraceHandler
  | .callStart => h.meetCallStart.bind fun r => .ok r.2
  | .callEnd c => .ok (h.meetCallEnd c)
  | .apStart => h.meetApStart.bind fun r => .ok r.2
  | .apEnd g => .ok (h.meetApEnd g)
  | .canonStart => h.meetCanonStart.bind fun r => .ok r.2
  | .canonEnd c => .ok (h.meetCanonEnd c)
  | .parStart => h.meetParStart
  | .parEnd t => h.meetParSubgraphEnd t
  | .foldStart id => h.meetFoldStart id
  | .iterStart id pos => h.meetIterationStart id pos
  | .iterEnd id => h.meetIterationEnd id
  | .backIter id => h.meetBackIterator id
  | .genEnd id => h.meetGenerationEnd id
  | .foldEnd id => h.meetFoldEnd id
  | .updateGeneration p g => match h.updateGeneration p g with
    | .ok h' => .ok h'
    | .error _ => .ok h
    | .panic s => .panic s

def runOps : List TraceOp → TraceHandler → TR TraceHandler
  | [], h => .ok h
  | op :: rest, h => (applyOp h op).bind (runOps rest)

def traceHandlerPanicSites : List String := [sCUM, sLB, sLA, sCUR0, sCURI, sTB]

instance : TraceSites traceHandlerPanicSites := ⟨fun _ h => h⟩

theorem applyOp_panic_sites (h : TraceHandler) (op : TraceOp) : ResIn traceHandlerPanicSites (applyOp h op) := by
  cases op <;> simp only [applyOp, resIn_ok, resIn_rbind_iff, implies_true, and_true]
  case callStart => exact meetCallStart_in h
  case apStart => exact meetApStart_in h
  case canonStart => exact meetCanonStart_in h
  case parStart => exact meetParStart_in h
  case parEnd t => exact meetParSubgraphEnd_in h t
  case foldStart id => exact meetFoldStart_in h id
  case iterStart id pos => exact meetIterationStart_in h id pos
  case iterEnd id => exact meetIterationEnd_in h id
  case backIter id => exact meetBackIterator_in h id
  case genEnd id => exact meetGenerationEnd_in h id
  case foldEnd id => exact meetFoldEnd_in h id
  case updateGeneration p g =>
    split
    · simp
    · simp
    · exact (updateGeneration_in h p g).of_eq ‹_›

theorem runOps_panic_sites (ops : List TraceOp) : ∀ h, ResIn traceHandlerPanicSites (runOps ops h) := by
  induction ops with
  | nil => simp [runOps]
  | cons op rest ih => simp [runOps, applyOp_panic_sites, ih]

/-- the trace handler panics only at six arithmetic / index sites — none of which the executor is known to reach (the two
`position - 1` sites of the position mapping are proved unreachable: `tryMergeNextStateAsCall_never`; the slider and
`try_get_generation` sites were repaired in /repo 95e5498, d774f34, 8502764 and are proved panic-free above), whatever the two traces and whatever
sequence of entry points is called on it (any handler state, not only reachable ones) -/
theorem C01_trace_handler_panic_sites (ops : List TraceOp) (h : TraceHandler) (s : String)
    (hp : runOps ops h = .panic s) : s ∈ traceHandlerPanicSites :=
  runOps_panic_sites ops h s hp

/-- in particular for the handler the interpreter starts from -/
theorem C01_trace_handler_panic_sites_from_traces (prev cur : Trace) (ops : List TraceOp) (s : String)
    (hp : runOps ops (TraceHandler.fromTrace prev cur) = .panic s) : s ∈ traceHandlerPanicSites :=
  C01_trace_handler_panic_sites ops _ s hp

/-- REPAIRED: lore `begin = u32::MAX, len = 1`: the executor's calls for `(seq (call b .. $s) (fold $s i ..))` on the data
`[stream value, fold lore, sent]` are `call_start, call_end, fold_start, iteration_start`; the last one is now rejected -/
example : runOps [.callStart, .callEnd (.executed (.stream "c" 0)), .foldStart 1, .iterStart 1 0]
    (TraceHandler.fromTrace [] [.call (.executed (.stream "c" 0)), .fold [⟨0, [⟨4294967295, 1⟩, ⟨2, 0⟩]⟩], .call (.requestSentBy (.peerId "b"))])
    = .error (.fsm (.keeper .setSubtraceLenAndPosFailed)) := by rfl
/-- REPAIRED: lore `begin = 4·10⁹, len = 0` followed by a `par` in the fold body: `trace_len - position` saturates at 0 -/
example : (match runOps [.callStart, .callEnd (.executed (.stream "c" 0)), .foldStart 1, .iterStart 1 0, .parStart]
    (TraceHandler.fromTrace [] [.call (.executed (.stream "c" 0)), .fold [⟨0, [⟨4000000000, 0⟩, ⟨2, 0⟩]⟩]]) with | .ok _ => true | _ => false) = true := by rfl

/-- op-sequence witnesses of sites the executor is not known to reach -/
example : runOps [.foldStart 1, .iterEnd 1] (TraceHandler.fromTrace [] []) = .panic sCUR0 := by rfl
example : runOps [.foldStart 1, .iterStart 1 0, .backIter 1, .backIter 1] (TraceHandler.fromTrace [] []) = .panic sCUR0 := by rfl

end AquaProps.C01
