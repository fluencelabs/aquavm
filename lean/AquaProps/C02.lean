import Aqua.Run.Runner
import Aqua.Run.ErrorCodes
/-!
# C02 — failed runs return the previous data untouched; outcomes follow the code ranges
-/
namespace AquaProps.C02
open Aqua Aqua.Run

/-- every variant of every error enum gets a code inside the range promised for its class -/
theorem C02_ranges (c : ErrClass) (name : String) (code : Int) (h : errorCode? c name = some code) :
    inRange c code := by
  unfold errorCode? at h
  cases hi : indexOf? name c.variants with
  | none => simp [hi] at h
  | some i =>
    simp [hi] at h
    have hlt := indexOf?_lt name c.variants i hi
    subst h
    cases c <;> simp only [ErrClass.variants, ErrClass.start, inRange] at hlt ⊢
    · have : Gen.preparationVariants.length ≤ 9999 := by decide
      have : Gen.preparationStart = 1 := by decide
      omega
    · have : Gen.catchableVariants.length ≤ 10000 := by decide
      have : Gen.catchableStart = 10000 := by decide
      omega
    · have : Gen.uncatchableVariants.length ≤ 10000 := by decide
      have : Gen.uncatchableStart = 20000 := by decide
      omega
    · have : Gen.farewellStart = 30000 := by decide
      omega

/-- the first farewell code is the documented "unprocessed call results" code 30000 -/
theorem C02_unprocessed_is_30000 : errorCode? .farewell "UnprocessedCallResult" = some 30000 := by decide +kernel

/-- the classes are pairwise disjoint: a code determines its class -/
theorem C02_ranges_disjoint (c₁ c₂ : ErrClass) (code : Int) (h₁ : inRange c₁ code) (h₂ : inRange c₂ code) :
    c₁ = c₂ := by
  cases c₁ <;> cases c₂ <;> simp only [inRange] at h₁ h₂ <;> first | rfl | omega

/-- no error code collides with success -/
theorem C02_nonzero (c : ErrClass) (code : Int) (h : inRange c code) : code ≠ 0 := by
  cases c <;> simp only [inRange] at h <;> omega

variable {B D S A C K X : Type}

/-- the stages respect the error classes (what the concrete model proves from `C02_ranges`) -/
structure CodesInRange (St : Stages B D S A C K X) : Prop where
  parseData : ∀ p c e, St.parseData p c = .error e → inRange .preparation e.code
  verify : ∀ p c s e, St.verify p c s = .error e → inRange .preparation e.code
  parseAir : ∀ a e, St.parseAir a = .error e → inRange .preparation e.code
  deCallResults : ∀ b e, St.deCallResults b = .error e → inRange .preparation e.code
  keypair : ∀ p e, St.keypair p = .error e → inRange .preparation e.code
  sizeErr : ∀ e, inRange .preparation (St.sizeErr e).code
  execCatchable : ∀ a p c crs s cp e x, St.execute a p c crs s cp = (.catchable e, x) → inRange .catchable e.code
  execUncatchable : ∀ a p c crs s cp e x, St.execute a p c crs s cp = (.uncatchable e, x) → inRange .uncatchable e.code
  signProduced : ∀ x k s e, St.signProduced x k s = .error e → inRange .uncatchable e.code
  leftover : ∀ x e, St.leftover x = some e → e.code = 30000

def isFailedCode (code : Int) : Prop := inRange .preparation code ∨ inRange .uncatchable code
def isNewDataCode (code : Int) : Prop := code = 0 ∨ inRange .catchable code ∨ code = 30000

/-- the "returns the previous data" shape -/
def ReturnsPrev (St : Stages B D S A C K X) (inp : RunInput B) (o : Outcome B) : Prop :=
  o.data = inp.prev ∧ o.nextPeerPks = [] ∧ o.callRequests = St.emptyCallRequests

/-- the "returns new data" shape: data, next peers and requests are what `populate` computed from a
post-execution context -/
def ReturnsNew (St : Stages B D S A C K X) (o : Outcome B) : Prop :=
  ∃ x k p, St.populate x k = .ok p ∧ o.data = p.data ∧ o.nextPeerPks = p.nextPeerPks ∧
    o.callRequests = p.callRequests

/-- the only other shape `farewell_step/outcome.rs` can produce: compactification or signing failed
inside `populate_outcome_from_contexts` ("internal error", empty data) -/
def InternalError (St : Stages B D S A C K X) (o : Outcome B) : Prop :=
  ∃ x k e, St.populate x k = .error e ∧ o.retCode = e.code ∧ o.data = St.blob.empty

/-- every run has exactly one of the three shapes, and the first two are tied to the code classes -/
theorem C02_outcome_shapes (St : Stages B D S A C K X) (hc : CodesInRange St) (l : Limits) (inp : RunInput B) :
    let o := executeAir St l inp
    (isFailedCode o.retCode ∧ ReturnsPrev St inp o) ∨ (isNewDataCode o.retCode ∧ ReturnsNew St o) ∨
      InternalError St o := by
  have prevShape : ∀ e f, inRange .preparation e.code ∨ inRange .uncatchable e.code →
      (isFailedCode (fromUncatchableError St inp.prev e f).retCode ∧
        ReturnsPrev St inp (fromUncatchableError St inp.prev e f)) := by
    intro e f h
    exact ⟨h, rfl, rfl, rfl⟩
  have popShape : ∀ x k code msg f, isNewDataCode code →
      (isNewDataCode (populateOutcome St x k code msg f).retCode ∧ ReturnsNew St (populateOutcome St x k code msg f)) ∨
        InternalError St (populateOutcome St x k code msg f) := by
    intro x k code msg f h
    unfold populateOutcome
    cases hp : St.populate x k with
    | error e => exact .inr ⟨x, k, e, hp, rfl, rfl⟩
    | ok p => exact .inl ⟨h, x, k, p, hp, rfl, rfl, rfl⟩
  unfold executeAir
  cases h1 : checkAgainstSizeLimits l inp.air.utf8ByteSize (St.blob.len inp.cur) with
  | error e => exact .inl (prevShape _ _ (.inl (hc.sizeErr _)))
  | ok flags =>
  simp only
  cases h2 : St.parseData inp.prev inp.cur with
  | error e => exact .inl (prevShape _ _ (.inl (hc.parseData _ _ _ h2)))
  | ok pc =>
  obtain ⟨p, c⟩ := pc
  simp only
  cases h3 : St.verify p c inp.params.particleId with
  | error e => exact .inl (prevShape _ _ (.inl (hc.verify _ _ _ _ h3)))
  | ok s =>
  simp only
  cases h4 : St.parseAir inp.air with
  | error e => exact .inl (prevShape _ _ (.inl (hc.parseAir _ _ h4)))
  | ok a =>
  simp only
  cases h5 : St.deCallResults inp.callResults with
  | error e => exact .inl (prevShape _ _ (.inl (hc.deCallResults _ _ h5)))
  | ok crs =>
  simp only
  cases h6 : checkCallResults l (St.resultLens crs) with
  | error e => exact .inl (prevShape _ _ (.inl (hc.sizeErr _)))
  | ok fc =>
  simp only
  cases h7 : St.keypair inp.params with
  | error e => exact .inl (prevShape _ _ (.inl (hc.keypair _ _ h7)))
  | ok kp =>
  simp only
  generalize hex : St.execute a p c crs s inp.params = r
  obtain ⟨exit, x⟩ := r
  simp only [finish]
  cases h8 : St.signProduced x kp inp.params.particleId with
  | error e => exact .inl (prevShape _ _ (.inr (hc.signProduced _ _ _ _ h8)))
  | ok x' =>
  simp only
  cases exit with
  | ok =>
    simp only
    cases h9 : St.leftover x' with
    | none => exact (popShape _ _ _ _ _ (.inl rfl)).elim (fun h => .inr (.inl h)) (fun h => .inr (.inr h))
    | some e =>
      exact (popShape _ _ _ _ _ (.inr (.inr (hc.leftover _ _ h9)))).elim (fun h => .inr (.inl h)) (fun h => .inr (.inr h))
  | catchable e =>
    exact (popShape _ _ _ _ _ (.inr (.inl (hc.execCatchable _ _ _ _ _ _ _ _ hex)))).elim
      (fun h => .inr (.inl h)) (fun h => .inr (.inr h))
  | uncatchable e => exact .inl (prevShape _ _ (.inr (hc.execUncatchable _ _ _ _ _ _ _ _ hex)))

theorem not_failed_and_newData {code : Int} (hf : isFailedCode code) (hn : isNewDataCode code) : False := by
  rcases hf with h | h <;> rcases hn with h' | h' | h' <;> simp only [inRange] at h h' <;> omega

/-- C02 (first half).  If `populate` cannot fail (no internal error), a run whose code is a
preparation or uncatchable code returns exactly the previous data, no next peers and the empty
request map. -/
theorem C02_failed_returns_prev (St : Stages B D S A C K X) (hc : CodesInRange St)
    (hpop : ∀ x k e, St.populate x k ≠ .error e) (l : Limits) (inp : RunInput B)
    (hcode : isFailedCode (executeAir St l inp).retCode) :
    ReturnsPrev St inp (executeAir St l inp) := by
  rcases C02_outcome_shapes St hc l inp with h | h | h
  · exact h.2
  · exact (not_failed_and_newData hcode h.1).elim
  · obtain ⟨x, k, e, hp, _⟩ := h
    exact absurd hp (hpop x k e)

/-- C02 (second half).  Under the same assumption a run with code 0, a catchable code or 30000
returns the data, next peers and requests computed from the post-execution contexts. -/
theorem C02_ok_returns_new (St : Stages B D S A C K X) (hc : CodesInRange St)
    (hpop : ∀ x k e, St.populate x k ≠ .error e) (l : Limits) (inp : RunInput B)
    (hcode : isNewDataCode (executeAir St l inp).retCode) :
    ReturnsNew St (executeAir St l inp) := by
  rcases C02_outcome_shapes St hc l inp with h | h | h
  · exact (not_failed_and_newData h.1 hcode).elim
  · exact h.2
  · obtain ⟨x, k, e, hp, _⟩ := h
    exact absurd hp (hpop x k e)

end AquaProps.C02
