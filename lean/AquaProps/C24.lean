import Aqua.Exec.Lens
import AquaProps.Lemmas.Lens
/-!
# C24 — lens selection agrees with plain JSON selection

`Aqua.Exec.Lens` is the replica of `lambda_applier/{applier,utils}.rs` (+ `StreamMapKey`, `CanonStreamMap`);
the specification is plain navigation `navigate : JVal → List Step → Option JVal`
(`Step = idx | key | length`), with `resolveSteps` turning the accessors of a path — including the ones
whose index / member name is held by a scalar or a fold iterator — into steps.

All theorems quantify over every store of scalars, every JSON value and every path.
* `EnvTotal sc` (needed only by the "never panics" statements): looking a name up in the store (no panic, no scalar/iterator
  name clash — `IterableShadowing`, uncatchable, since /repo 66d8bd2) and peeking
  at the element of a fold iterator do not panic.
* `a ≠ .error`: `ValueAccessor::Error` is never in a parsed lens (`parse_lambda` returns `Err` when its error
  list is non-empty); the applier's `unreachable!` on it is a panic in the model.
-/
namespace AquaProps.C24
open Aqua Aqua.Json Aqua.Air Aqua.Exec Aqua.Exec.Lens AquaProps.Lemmas.Lens Aqua.Run

/-- Success iff navigable, with the same result.  Applying a path to a JSON value succeeds with `r`
exactly when every accessor denotes a step and plain navigation along those steps reaches `r`. -/
theorem C24_scalar (sc : Scalars) (v : JVal) (path : List ValueAccessor) (r : JVal) :
    Lens.selectByPathFromScalar sc v path = .ok r ↔
      ∃ steps, resolveSteps sc path = some steps ∧ navigate v steps = some r :=
  select_ok sc v path r

/-- Failure is a catchable lens error, never a panic or an uncatchable error: the applier ends in a
value or in one of `LambdaApplierError`, `VariableNotFound`, `VariableWasNotInitializedAfterNew`
(the last two: the scalar named by an accessor is not there). -/
theorem C24_scalar_failure_is_catchable (sc : Scalars) (henv : EnvTotal sc) (v : JVal) (path : List ValueAccessor)
    (hp : ∀ a ∈ path, a ≠ ValueAccessor.error) :
    (∃ r, Lens.selectByPathFromScalar sc v path = .ok r) ∨
    (∃ e, Lens.selectByPathFromScalar sc v path = .error (.catchable e) ∧
      (e.variant = "LambdaApplierError" ∨ e.variant = "VariableNotFound" ∨ e.variant = "VariableWasNotInitializedAfterNew")) := by
  rcases select_total sc henv v hp with h | ⟨e, h, he, hlen⟩
  · exact .inl h
  · unfold IsLensFailure at he
    split at he
    · exact .inr ⟨_, h, .inl rfl⟩
    · exact absurd rfl (hlen _)
    · exact .inr ⟨_, h, .inr (.inl rfl)⟩
    · exact .inr ⟨_, h, .inr (.inr rfl)⟩
    · exact he.elim

/-- When every accessor denotes a step but navigation is impossible, the failure is a `LambdaApplierError`. -/
theorem C24_scalar_unnavigable (sc : Scalars) (v : JVal) (path : List ValueAccessor) (steps : List Step)
    (hres : resolveSteps sc path = some steps) (hnav : navigate v steps = none) :
    ∃ e, Lens.selectByPathFromScalar sc v path = .error (.catchable (.lambdaApplierError e)) := by
  have h := select_follows sc v path
  simp only [hres, Option.map_some, hnav] at h
  exact h

/-- Which error each impossible step gives (the variants and payloads of `errors.rs`):
an index on a non-array, an index past the end, a member name on a non-object, an absent member;
a scalar-supplied accessor that is a float, negative or above `u32::MAX`; one that is neither number nor string. -/
theorem C24_step_errors (v : JVal) :
    (∀ i, (∀ a, v ≠ .arr a) → tryJvalueWithIdx v i = .error (.arrayAccessorNotMatchValue v i)) ∧
    (∀ a i, v = .arr a → a.length ≤ i → tryJvalueWithIdx v i = .error (.valueNotContainSuchArrayIdx v i)) ∧
    (∀ k, (∀ o, v ≠ .obj o) → tryJvalueWithFieldName v k = .error (.fieldAccessorNotMatchValue v k)) ∧
    (∀ o k, v = .obj o → member k o = none → tryJvalueWithFieldName v k = .error (.valueNotContainSuchField v k)) ∧
    (∀ i : Int, (i < 0 ∨ 4294967295 < i) → selectByJvalue v (.num i) = .error (.indexAccessNotU32 (.num i))) ∧
    (∀ f, selectByJvalue v (.float f) = .error (.indexAccessNotU32 (.float f))) ∧
    (∀ a, (∀ s, a ≠ .str s) → (∀ i, a ≠ .num i) → (∀ f, a ≠ .float f) →
        selectByJvalue v a = .error (.scalarAccessorHasInvalidType a)) := by
  refine ⟨fun i h => ?_, fun a i hv hi => ?_, fun k h => ?_, fun o k hv hm => ?_, fun i hi => ?_, fun f => rfl,
    fun a h1 h2 h3 => ?_⟩
  · cases v with
    | arr a => exact absurd rfl (h a)
    | _ => rfl
  · subst hv; simp only [tryJvalueWithIdx, List.getElem?_eq_none hi]
  · cases v with
    | obj o => exact absurd rfl (h o)
    | _ => rfl
  · subst hv; simp only [tryJvalueWithFieldName, getField_obj_eq_member, hm]
  · have : ¬ (0 ≤ i ∧ i ≤ 4294967295) := by omega
    simp only [selectByJvalue, tryNumberToU32, if_neg this]; rfl
  · cases a with
    | str s => exact absurd rfl (h1 s)
    | num i => exact absurd rfl (h2 i)
    | float f => exact absurd rfl (h3 f)
    | _ => rfl

/-- A lens over a concatenated path is the lens over the first part followed by the lens over the second. -/
theorem C24_scalar_compositional (sc : Scalars) (v : JVal) (p q : List ValueAccessor) :
    Lens.selectByPathFromScalar sc v (p ++ q) =
      (Lens.selectByPathFromScalar sc v p).bind fun v' => Lens.selectByPathFromScalar sc v' q :=
  select_append sc v p q

/-- `.length` is the array length as a JSON number; on anything else it is the catchable
`LengthFunctorAppliedToNotArray`.  On a canon stream: the number of elements; on a canon map: the number
of key-value pairs (not of keys). -/
theorem C24_length (v : JVal) (stream pairs : List JVal) (m : CanonStreamMap)
    (hm : CanonStreamMap.fromCanonStream pairs = .ok m) :
    (selectByFunctorFromScalar v .length =
      match navigate v [.length] with
      | some r => .ok r
      | none => catchable (.lengthFunctorAppliedToNotArray v)) ∧
    (∀ r, navigate v [.length] = some r ↔ ∃ a, v = .arr a ∧ r = .num a.length) ∧
    (selectByFunctorFromStream stream .length).result = .num stream.length ∧
    some (selectByFunctorFromStream stream .length).result = navigate (.arr stream) [.length] ∧
    selectByFunctorFromCanonMap m .length = .num pairs.length := by
  refine ⟨?_, fun r => ?_, rfl, rfl, ?_⟩
  · cases v <;> rfl
  · cases v <;> simp [navigate, navigateStep]
    rename_i a; constructor <;> intro h <;> simp [h]
  · simp only [selectByFunctorFromCanonMap, CanonStreamMap.len, (fromCanonStream_ok.mp hm).1]

/-- the whole lens (path or functor) on a scalar: success iff navigable, same result -/
theorem C24_lambda_scalar (sc : Scalars) (v : JVal) (l : LambdaAST) (r : JVal) :
    Lens.selectByLambdaFromScalar sc v l = .ok r ↔
      ∃ steps, resolveLambda sc l = some steps ∧ navigate v steps = some r := by
  cases l with
  | valuePath h t => exact select_ok sc v (h :: t) r
  | functor f =>
    cases f
    simp only [resolveLambda, Option.some.injEq, exists_eq_left']
    rw [show Lens.selectByLambdaFromScalar sc v (.functor .length) = _ from (C24_length v [] [] ⟨[], []⟩ rfl).1]
    cases navigate v [.length] <;> simp [catchable]

/-- A canon stream is navigated as the array of its elements.  The first accessor must denote an index
(a member name, or a scalar holding a string, fails: arrays have no members), it selects that element, the
rest of the path applies to the element as to a scalar; the reported tetraplet index is that first index. -/
theorem C24_canon_stream (sc : Scalars) (stream : List JVal) (l : LambdaAST) (r : JVal) :
    ((∃ t, selectByLambdaFromStream sc stream l = .ok ⟨r, t⟩) ↔
      ∃ steps, resolveLambda sc l = some steps ∧ navigate (.arr stream) steps = some r) ∧
    ((∃ t, selectByLambdaFromStream sc stream l = .ok ⟨r, t⟩) ↔ Lens.selectByLambdaFromScalar sc (.arr stream) l = .ok r) ∧
    (∀ t h body, l = .valuePath h body → selectByLambdaFromStream sc stream l = .ok ⟨r, t⟩ →
      ∃ i, t = some i ∧ resolveStep sc h = some (.idx i)) := by
  have hscalar : (∃ t, selectByLambdaFromStream sc stream l = .ok ⟨r, t⟩) ↔
      Lens.selectByLambdaFromScalar sc (.arr stream) l = .ok r := by
    cases l with
    | valuePath h body => exact stream_ok_iff_scalar sc stream h body r
    | functor f =>
      cases f
      simp [selectByLambdaFromStream, selectByFunctorFromStream, Lens.selectByLambdaFromScalar, selectByFunctorFromScalar]
  refine ⟨hscalar.trans (C24_lambda_scalar sc (.arr stream) l r), hscalar, ?_⟩
  rintro t h body rfl ht
  simp only [selectByLambdaFromStream, stream_eq, Res.bind_eq_ok', Res.ofOption_eq_ok] at ht
  obtain ⟨i, hi, x, -, r', -, he⟩ := ht
  cases he
  exact ⟨i, rfl, (splitToIdx_ok sc h i).mp hi⟩

/-- on a canon stream too, failure is a catchable lens error and nothing else -/
theorem C24_canon_stream_failure_is_catchable (sc : Scalars) (henv : EnvTotal sc) (stream : List JVal)
    (h : ValueAccessor) (body : List ValueAccessor) (hh : h ≠ .error) (hb : ∀ a ∈ body, a ≠ ValueAccessor.error) :
    OkOrLensFailure (selectByLambdaFromStream sc stream (.valuePath h body)) :=
  (stream_total sc henv stream hh hb).mono fun _ h => h.1

/-- The property at full strength for canon maps (no key-present guard): a lens on a canon map succeeds with
`r` exactly when its first accessor denotes a key and plain navigation of that key's group — the empty array for
a key that is not in the map — along the remaining accessors reaches `r`. -/
theorem C24_canon_map_full (sc : Scalars) (pairs : List JVal) (m : CanonStreamMap)
    (hm : CanonStreamMap.fromCanonStream pairs = .ok m) (h : ValueAccessor) (body : List ValueAccessor) (r : JVal) :
    selectByPathFromCanonMap sc m h body = .ok r ↔
      ∃ k steps, resolveMapKey sc h = some k ∧ resolveSteps sc body = some steps ∧
        navigate (.arr (keyGroup pairs k)) steps = some r := by
  rw [canonMap_eq, Res.bind_eq_ok']
  simp only [canonMapKeyOfPrefix_ok, index_getD pairs m hm, selectInGroup_ok, select_ok]
  exact ⟨fun ⟨k, hk, steps, h⟩ => ⟨k, steps, hk, h⟩, fun ⟨k, steps, hk, h⟩ => ⟨k, hk, steps, h⟩⟩

/-- A canon map: the first accessor selects a key group, the rest is plain navigation of the group.
`pairs` are the map's `{"key": k, "value": v}` objects in canon order, `keyGroup pairs k` the values inserted
under `k` (typed keys: the string `"1"` and the integer `1` are different keys); the group of a key that is not
in the map is empty.
* The first accessor denotes the key `k` (a name → string key, `[n]` → integer key, a plain scalar holding a
  string or an integer → that key; an iterator, a float or any other JSON type → error).
* With no further accessors the result is the group as an array (`[]` for an absent key); with further
  accessors the result is plain navigation of that array (so the next accessor must be an index that exists:
  on an absent key every further accessor fails).  No guard on the presence of the key (repaired code, 766497d). -/
theorem C24_canon_map (sc : Scalars) (pairs : List JVal) (m : CanonStreamMap)
    (hm : CanonStreamMap.fromCanonStream pairs = .ok m) (h : ValueAccessor) (body : List ValueAccessor) :
    (∀ k, canonMapKeyOfPrefix sc h = .ok k ↔ resolveMapKey sc h = some k) ∧
    (∀ k, resolveMapKey sc h = some k → ∀ r, selectByPathFromCanonMap sc m h body = .ok r ↔
          ∃ steps, resolveSteps sc body = some steps ∧ navigate (.arr (keyGroup pairs k)) steps = some r) ∧
    (resolveMapKey sc h = none → ∀ r, selectByPathFromCanonMap sc m h body ≠ .ok r) := by
  have hfull := C24_canon_map_full sc pairs m hm h body
  refine ⟨canonMapKeyOfPrefix_ok sc h, fun k hk r => ?_, fun hnone r hr => ?_⟩
  · rw [hfull]; simp [hk]
  · obtain ⟨k, _, hk, _⟩ := (hfull r).mp hr
    rw [hnone] at hk; cases hk

/-- A key that is not in the map is the empty key group: the bare key gives `[]` (as the code documents:
"There will be an empty canon stream if the key was not found"); any further accessor fails — never a value —
with `CanonStreamNotHaveEnoughValues { stream_size: 0, idx }` when it denotes an index, and with a
`LambdaApplierError` whenever it denotes a step at all.  (Before 766497d the code returned `[]` here and
ignored the remaining accessors.) -/
theorem C24_canon_map_absent_key (sc : Scalars) (pairs : List JVal) (m : CanonStreamMap)
    (hm : CanonStreamMap.fromCanonStream pairs = .ok m) (h : ValueAccessor) (k : StreamMapKey)
    (hk : resolveMapKey sc h = some k) (habsent : keyGroup pairs k = []) :
    selectByPathFromCanonMap sc m h [] = .ok (.arr []) ∧
    (∀ b bs r, selectByPathFromCanonMap sc m h (b :: bs) ≠ .ok r) ∧
    (∀ b bs i, resolveStep sc b = some (.idx i) →
      selectByPathFromCanonMap sc m h (b :: bs) = lambdaErr (.canonStreamNotHaveEnoughValues 0 i)) ∧
    (∀ b bs s, resolveStep sc b = some s →
      ∃ e, selectByPathFromCanonMap sc m h (b :: bs) = .error (.catchable (.lambdaApplierError e))) := by
  have hsel : ∀ body, selectByPathFromCanonMap sc m h body = selectInGroup sc [] body := fun body => by
    rw [canonMap_eq, (canonMapKeyOfPrefix_ok sc h k).mpr hk]
    dsimp only [Res.bind]
    rw [index_getD pairs m hm, habsent]
  refine ⟨hsel [], fun b bs r hr => ?_, fun b bs i hs => ?_, fun b bs s hs => ?_⟩
  · rw [hsel, selectInGroup_ok, select_cons, Res.bind_eq_ok'] at hr
    obtain ⟨x, hx, -⟩ := hr
    obtain ⟨i, -, hi⟩ := (applyAccessor_arr sc [] b x).mp hx
    simp at hi
  · rw [hsel]
    simp [selectInGroup, selectByPathFromCanonMapStream, (splitToIdx_ok sc b i).mpr hs]
  · rw [hsel]
    simp only [selectInGroup, selectByPathFromCanonMapStream]
    rcases splitToIdx_resolved sc hs with ⟨i, hi⟩ | ⟨_, he, l, rfl⟩
    · rw [hi]; exact ⟨_, rfl⟩
    · rw [he]; exact ⟨l, rfl⟩

/-- The key group is what plain JSON selection on the map's JSON form gives, whenever that form is well
defined: if the keys present in the map render to distinct strings (no `"1"` next to `1`), then selecting
the member `to_key k` of the map's JSON object and navigating on is navigating the key group of `k`. -/
theorem C24_canon_map_as_json (pairs : List JVal) (m : CanonStreamMap)
    (hm : CanonStreamMap.fromCanonStream pairs = .ok m)
    (hinj : ∀ k k', keyGroup pairs k ≠ [] → keyGroup pairs k' ≠ [] → k.toKey = k'.toKey → k = k')
    (k : StreamMapKey) (hk : keyGroup pairs k ≠ []) (steps : List Step) :
    navigate m.asJvalue (.key k.toKey :: steps) = navigate (.arr (keyGroup pairs k)) steps := by
  obtain ⟨-, hloop⟩ := fromCanonStream_ok.mp hm
  have hidx := index_eq_keyGroup pairs m hm
  have hpresent : ∀ k, k ∈ m.map.map (·.1) → keyGroup pairs k ≠ [] := by
    intro k' hmem he
    obtain ⟨⟨k'', g⟩, hp, rfl⟩ := List.mem_map.mp hmem
    have := hidx k''
    simp [he, CanonStreamMap.index] at this
    exact this _ _ hp rfl
  have hki : m.index k = some (keyGroup pairs k) := by rw [hidx, if_neg hk]
  have := asJson_member m (nodup_loop hloop (by simp)) (fun a b ha hb => hinj a b (hpresent a ha) (hpresent b hb)) k _ hki
  simp only [navigate, this]

/-- on a canon map too, failure is a catchable lens error and nothing else -/
theorem C24_canon_map_failure_is_catchable (sc : Scalars) (henv : EnvTotal sc) (m : CanonStreamMap)
    (h : ValueAccessor) (body : List ValueAccessor) (hh : h ≠ .error) (hb : ∀ a ∈ body, a ≠ ValueAccessor.error) :
    OkOrLensFailure (selectByLambdaFromCanonMap sc m (.valuePath h body)) := by
  show OkOrLensFailure (selectByPathFromCanonMap sc m h body)
  rw [canonMap_eq]
  exact ((canonMapKeyOfPrefix_total sc henv hh).bind fun k _ => selectInGroup_total sc henv _ hb).mono fun _ h => h.1

/-- the codes hosts see for the two lens-specific errors -/
theorem C24_codes (e : LambdaErr) (v : JVal) :
    (CatchableErr.lambdaApplierError e).code = 10007 ∧ (CatchableErr.lengthFunctorAppliedToNotArray v).code = 10010 := by
  constructor <;> (simp only [CatchableErr.code, CatchableErr.variant]; decide +kernel)

/-- Every lens failure carries a code of the catchable range, computed from the variant tables
regenerated from the Rust enums: `LambdaApplierError` (whatever `LambdaError` it wraps),
`LengthFunctorAppliedToNotArray`, `VariableNotFound`, `VariableWasNotInitializedAfterNew`. -/
theorem C24_error_is_catchable (e : ExecErr) (h : IsLensFailure e) :
    ∃ c, e = .catchable c ∧ inRange .catchable c.code ∧ e.isCatchable = true := by
  unfold IsLensFailure at h
  split at h
  · exact ⟨_, rfl, by rw [(C24_codes _ .null).1]; decide, rfl⟩
  · exact ⟨_, rfl, by rw [(C24_codes .emptyStream _).2]; decide, rfl⟩
  · exact ⟨_, rfl, by simp only [CatchableErr.code, CatchableErr.variant]; decide +kernel, rfl⟩
  · exact ⟨_, rfl, by simp only [CatchableErr.code, CatchableErr.variant]; decide +kernel, rfl⟩
  · exact h.elim

/-- the model's `LambdaError`, `ValueAccessor`, `Functor`, `LambdaAST`, `StreamMapKey` have exactly the
variants of the Rust enums (tables regenerated from the sources on every run) -/
theorem C24_enums_match_sources :
    Gen.lambdaErrorVariants =
      [lambdaErrVariant (.canonStreamNotHaveEnoughValues 0 0), lambdaErrVariant .emptyStream,
       lambdaErrVariant (.fieldAccessorAppliedToStream ""), lambdaErrVariant (.arrayAccessorNotMatchValue .null 0),
       lambdaErrVariant (.valueNotContainSuchArrayIdx .null 0), lambdaErrVariant (.valueNotContainSuchField .null ""),
       lambdaErrVariant (.fieldAccessorNotMatchValue .null ""), lambdaErrVariant (.indexAccessNotU32 .null),
       lambdaErrVariant (.scalarAccessorHasInvalidType .null), lambdaErrVariant (.streamAccessorHasInvalidType .null),
       lambdaErrVariant (.canonStreamMapAccessorHasInvalidType .null), lambdaErrVariant .canonStreamMapAccessorMustNotBeIterable] ∧
    Gen.valueAccessorVariants =
      [(ValueAccessor.arrayAccess 0).variant, (ValueAccessor.fieldAccessByName "").variant,
       (ValueAccessor.fieldAccessByScalar "").variant, ValueAccessor.error.variant] ∧
    Gen.functorVariants = [Functor.length.variant] ∧
    Gen.lambdaAstVariants = ["Functor", "ValuePath"] ∧
    Gen.streamMapKeyVariants = ["Str", "U64", "I64"] := by
  exact ⟨rfl, rfl, rfl, rfl, rfl⟩

/-- the executor model's lens applier (`Aqua.Exec.selectByLambdaFromScalar`, the one exercised by the
lock-step correspondence of whole runs) is this replica on its accessor type -/
theorem C24_agrees_with_executor_model (sc : Scalars) (v : JVal) :
    (∀ as : List Accessor, Exec.selectByPathFromScalar sc v as = Lens.selectByPathFromScalar sc v (as.map .ofAccessor)) ∧
    (∀ l l', LambdaAST.ofLambda l = some l' → Exec.selectByLambdaFromScalar sc v l = Lens.selectByLambdaFromScalar sc v l') := by
  have hcons : ∀ (w : JVal) (a : Accessor) (rest : List Accessor), Exec.selectByPathFromScalar sc w (a :: rest) =
      (applyAccessor sc w (.ofAccessor a)).bind fun w' => Exec.selectByPathFromScalar sc w' rest := by
    intro w a rest
    cases a with
    | fieldByScalar s =>
      simp only [Exec.selectByPathFromScalar, ValueAccessor.ofAccessor, applyAccessor, scalarLookup]
      cases sc.getValue s with
      | ok ref => dsimp only [Res.bind_ok, Res.bind]; cases scalarRefValue ref <;> rfl
      | _ => rfl
    | _ => rfl
  have hpath : ∀ (as : List Accessor) (w : JVal),
      Exec.selectByPathFromScalar sc w as = Lens.selectByPathFromScalar sc w (as.map .ofAccessor) := by
    intro as
    induction as with
    | nil => intro w; rfl
    | cons a rest ih => intro w; rw [hcons, List.map_cons, select_cons]; simp only [ih]
  refine ⟨fun as => hpath as v, ?_⟩
  intro l l' hl
  cases l with
  | functorLength => cases hl; cases v <;> rfl
  | path as =>
    cases as with
    | nil => cases hl
    | cons a rest => cases hl; exact hpath (a :: rest) v

/-- a store with the scalars `i = 1`, `k = "b"`, `f = 1.5` -/
def exampleScalars : Scalars :=
  { nonIterable := { cells := [("i", [⟨0, some ⟨.num 1, { peerPk := "p" }, 0, .literal⟩⟩]),
                               ("k", [⟨0, some ⟨.str "b", { peerPk := "p" }, 0, .literal⟩⟩]),
                               ("f", [⟨0, some ⟨.float "1.5", { peerPk := "p" }, 0, .literal⟩⟩])] } }

def exampleValue : JVal := .obj [("a", .arr [.num 10, .obj [("b", .str "x")]])]

example : resolveSteps exampleScalars [.fieldAccessByName "a", .fieldAccessByScalar "i", .fieldAccessByScalar "k"]
    = some [.key "a", .idx 1, .key "b"] := by decide +kernel
example : navigate exampleValue [.key "a", .idx 1, .key "b"] = some (.str "x") := by
  simp [navigate, navigateStep, member, exampleValue]
example : resolveSteps exampleScalars [.fieldAccessByName "a", .fieldAccessByScalar "f"] = none := by decide +kernel
example : navigate exampleValue [.key "a", .idx 2] = none := by
  simp [navigate, navigateStep, member, exampleValue]
example : resolveMapKey exampleScalars (.fieldAccessByScalar "k") = some (.str "b") := by decide +kernel
example : resolveMapKey exampleScalars (.arrayAccess 1) = some (.i64 1) := by decide +kernel
example : resolveMapKey exampleScalars (.fieldAccessByScalar "f") = none := by decide +kernel
/-- a map with the string key "1" and the integer key 1: two different groups -/
def examplePairs : List JVal :=
  [.obj [("key", .str "1"), ("value", .str "a")], .obj [("key", .num 1), ("value", .str "b")],
   .obj [("key", .str "1"), ("value", .str "c")]]
example : keyGroup examplePairs (.str "1") = [.str "a", .str "c"] := rfl
example : keyGroup examplePairs (.i64 1) = [.str "b"] := rfl
example : keyGroup examplePairs (.str "absent") = [] := by decide +kernel
/-- a map without colliding keys (hypothesis of `C24_canon_map_as_json`): keys "a" and 1 -/
example : keyGroup [JVal.obj [("key", .str "a"), ("value", .num 7)], .obj [("key", .num 1), ("value", .num 8)]] (.str "a") = [.num 7] := rfl
example : ∃ m, CanonStreamMap.fromCanonStream examplePairs = .ok m := ⟨_, rfl⟩
example : IsLensFailure (.catchable (.lambdaApplierError (.valueNotContainSuchField .null "a"))) := trivial
/-- lookups in the store of the examples give a value (or `VariableNotFound`), not a panic -/
example : ∃ r, exampleScalars.getValue "i" = .ok r := ⟨_, rfl⟩

end AquaProps.C24
