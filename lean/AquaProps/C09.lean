import AquaProps.Lemmas.MergeLattice
import AquaProps.Lemmas.CallRepush
/-!
# C09 — merging never forgets a result

Proved here (for ALL pairs of states, also adversarial ones): whenever the per-state merge of the
trace handler succeeds, every executed / failed call result and every executed canon result held by
either side is kept with the same content; the merge never panics.
The run-level statement (`C09_full`) additionally needs that every state of the previous and of the
current trace is *consumed* by a merger during the run; that part is checked on every step of
simulated histories by the direct oracle (multiset inclusion of result ids and of the CID stores)
and by the lock-step correspondence, not proved — hence the `_partial` names.
-/
namespace AquaProps.C09
open Aqua Aqua.Data Aqua.Trace AquaProps.Merge

/-- full run-level statement, kept visible: `results d` is the multiset of result content ids of data `d` -/
def C09_full (results : α → List (String × String)) (run : α → α → Option α) : Prop :=
  ∀ prev cur out, run prev cur = some out →
    (∀ r, (results prev).count r ≤ (results out).count r) ∧ (∀ r, (results cur).count r ≤ (results out).count r)

theorem C09_call_result_kept_partial (p c m : CallResult) (s : PreparationScheme) (h : mergeCallResults p c = .ok (m, s)) :
    (isResult p → contentOf m = contentOf p) ∧ (isResult c → contentOf m = contentOf c) :=
  mergeCall_keeps_results p c m s h

theorem C09_canon_result_kept_partial (p c m : CanonResult) (h : mergeCanonResults p c = .ok m) :
    (∀ x, canonContent p = some x → canonContent m = some x) ∧ (∀ x, canonContent c = some x → canonContent m = some x) :=
  (mergeCanon_keeps p c m h).2

/-- a merged state is always one of the two inputs: merging invents nothing -/
theorem C09_merge_invents_nothing_partial (p c m : CallResult) (s : PreparationScheme) (h : mergeCallResults p c = .ok (m, s)) :
    m = p ∨ m = c := (mergeCall_upper p c m s h).2.2

/-- a state present on one side only is handed to the executor unchanged (`prepare_call_result`) -/
theorem C09_single_side_kept_partial (k : DataKeeper) (r : MergerCallResult) (k' : DataKeeper) (st : CallResult)
    (hp : k.prev.nextState.1 = some (.call st)) (hc : k.cur.nextState.1 = none)
    (h : tryMergeNextStateAsCall k = .ok (r, k')) : ∃ pos src, r = .met ⟨st, pos, src⟩ := by
  unfold tryMergeNextStateAsCall nextStates at h
  simp only [hp, hc] at h
  unfold prepareCallResult at h
  simp only [bind, Res.bind] at h
  split at h
  · injection h with h; injection h with h1 _; exact ⟨_, _, h1.symm⟩
  · cases h
  · cases h

example : mergeCallResults (.requestSentBy (.peerId "a")) (.executed (.scalar "cid")) = .ok (.executed (.scalar "cid"), .current) := rfl


/-! ## run level, one instruction at a time: the state a `call` consumed is pushed again

`callTail` is what a call instruction does after the trace handler handed it the merged state `m`
(proved equal to the tail of `resolvedExecute` in C05).  For EVERY context: -/

open Aqua.Exec Aqua.Air AquaProps.C05 in
/-- A result found in the merged data is re-emitted unchanged: if the merged state of a call is
`Executed v` and the call step returns normally, exactly one state was appended to the result trace and it
is `Executed v` again. -/
theorem C09_result_reemitted_partial (env : Env) (m : MetCallResult) (t : Tetraplet) (ah : Option String) (out : CallOutput)
    (args : List Value) (v : ValueRef) (hres : m.result = .executed v) (c : Ctx)
    (hok : (callTail env (.met m) t ah out args c).1 = .ok ()) :
    Repushed m.result c (callTail env (.met m) t ah out args c).2 :=
  callTail_executed_repushed env m t ah out args v hres c hok

open Aqua.Exec Aqua.Air AquaProps.C05 in
/-- A pending own request without a result is re-emitted as it is. -/
theorem C09_pending_request_reemitted_partial (env : Env) (m : MetCallResult) (t : Tetraplet) (ah : Option String)
    (out : CallOutput) (args : List Value) (id : Nat) (c : Ctx)
    (hres : m.result = .requestSentBy (.peerIdWithCallId c.currentPeerId id))
    (hnone : lookup c.callResults (toString id) = none) :
    (callTail env (.met m) t ah out args c).1 = .ok () ∧
    tr (callTail env (.met m) t ah out args c).2 = tr c ++ [.call m.result] :=
  callTail_pending_repushed env m t ah out args id c hres hnone

end AquaProps.C09
