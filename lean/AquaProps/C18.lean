import AquaProps.Lemmas.Failures
/-!
# C18 — xor catches exactly the catchable failures and reports them faithfully

Statements are about the model interpreter `Aqua.Exec.exec` (replica of `Instruction::execute` with the
`execute!` wrapper) for EVERY environment, fuel, instructions and execution context.  `flush c` is
`flush_subgraph_completeness` (the first thing `Xor::execute` does), `xorEnterRight` / `xorLeaveRight` are the
state changes of xor.rs around the right branch, `wrap i` is the `execute!` wrapper (`set_errors` on failure).
-/
namespace AquaProps.C18
open Aqua Aqua.Exec Aqua.Air Aqua.Json AquaProps

/-- what `xor l r` returns once its left branch has failed with the catchable `e` in context `c1`: the
result of the right branch run from `xorEnterRight e c1`, followed by `xorLeaveRight`, seen through the
`execute!` wrapper of the xor instruction itself -/
def xorCaught (env : Env) (fuel : Nat) (l r : Instr) (e : CatchableErr) (c1 : Ctx) : Res ExecErr Unit × Ctx :=
  let rr := exec env fuel r (xorEnterRight e c1)
  wrap (.xor l r) (rr.1, xorLeaveRight rr.1.isOk rr.2)

theorem exec_xor (env : Env) (fuel : Nat) (l r : Instr) (c : Ctx) :
    exec env (fuel + 1) (.xor l r) c =
      match exec env fuel l (flush c) with
      | (.error (.catchable e), c1) => xorCaught env fuel l r e c1
      | x => x := by
  rw [exec_noncall _ _ _ _ rfl, execInner_xor]
  rcases exec env fuel l (flush c) with ⟨_ | ⟨_ | _ | _⟩ | _, _⟩ <;> rfl

/-- left branch not catchable ⇒ its result is the xor's result (value *and* context; the right branch
does not occur on the right-hand side).  Covers success, "still waiting" (success with an incomplete
subgraph), uncatchable errors and panics. -/
theorem C18_xor_left_returned (env : Env) (fuel : Nat) (l r : Instr) (c : Ctx)
    (h : ∀ e, (exec env fuel l (flush c)).1 ≠ .error (.catchable e)) :
    exec env (fuel + 1) (.xor l r) c = exec env fuel l (flush c) := by
  rw [exec_xor]
  split
  · next e c1 heq => exact absurd (congrArg Prod.fst heq) (h e)
  · rfl

/-- left branch fails catchably ⇒ the right branch runs from `xorEnterRight e c1` -/
theorem C18_xor_catches (env : Env) (fuel : Nat) (l r : Instr) (c c1 : Ctx) (e : CatchableErr)
    (h : exec env fuel l (flush c) = (.error (.catchable e), c1)) :
    exec env (fuel + 1) (.xor l r) c = xorCaught env fuel l r e c1 := by
  rw [exec_xor, h]

/-- The right branch is executed iff the left branch's result is a catchable error: for every input
exactly one of the two descriptions applies — either the left branch failed catchably and the xor is the
right branch run from `xorEnterRight`, or it did not and the xor returns the left result whatever the right
branch is (`∀ r'`). -/
theorem C18_xor_right_iff_catchable (env : Env) (fuel : Nat) (l r : Instr) (c : Ctx) :
    (∃ e c1, exec env fuel l (flush c) = (.error (.catchable e), c1) ∧
        exec env (fuel + 1) (.xor l r) c = xorCaught env fuel l r e c1) ∨
    ((∀ e, (exec env fuel l (flush c)).1 ≠ .error (.catchable e)) ∧
        ∀ r', exec env (fuel + 1) (.xor l r') c = exec env fuel l (flush c)) := by
  by_cases h : ∃ e c1, exec env fuel l (flush c) = (.error (.catchable e), c1)
  · obtain ⟨e, c1, h⟩ := h
    exact .inl ⟨e, c1, h, C18_xor_catches env fuel l r c c1 e h⟩
  · have hne : ∀ e, (exec env fuel l (flush c)).1 ≠ .error (.catchable e) := fun e he => h ⟨e, _, Prod.ext he rfl⟩
    exact .inr ⟨hne, fun r' => C18_xor_left_returned env fuel l r' c hne⟩

/-- a left branch that succeeds — complete or still waiting (`c1.subgraphComplete = false`) — is the
xor's result; the right branch is not run -/
theorem C18_ok_or_waiting_left_not_caught (env : Env) (fuel : Nat) (l r : Instr) (c c1 : Ctx)
    (h : exec env fuel l (flush c) = (.ok (), c1)) : exec env (fuel + 1) (.xor l r) c = (.ok (), c1) := by
  rw [exec_xor, h]

/-- a panic of the left branch is not caught -/
theorem C18_panic_not_caught (env : Env) (fuel : Nat) (l r : Instr) (c c1 : Ctx) (s : String)
    (h : exec env fuel l (flush c) = (.panic s, c1)) : exec env (fuel + 1) (.xor l r) c = (.panic s, c1) := by
  rw [exec_xor, h]

/-- an uncatchable error of the left branch is the xor's result (same error, same context) -/
theorem C18_uncatchable_never_caught (env : Env) (fuel : Nat) (l r : Instr) (c : Ctx) (u : UncatchableErr)
    (h : (exec env fuel l (flush c)).1 = .error (.uncatchable u)) :
    exec env (fuel + 1) (.xor l r) c = exec env fuel l (flush c) ∧
    (exec env (fuel + 1) (.xor l r) c).1 = .error (.uncatchable u) := by
  have := C18_xor_left_returned env fuel l r c (by rw [h]; intro e he; cases he)
  exact ⟨this, by rw [this, h]⟩

/-- Through any nesting: if somewhere below `i` (through both branches of xor / seq / par, bodies of
match / mismatch / scalar fold / new, bodies re-entered by next — `InvokesStar`) a sub-execution ends with
the uncatchable error `u`, then `i` does not succeed and does not end with a catchable error: no enclosing
xor, at any depth, catches it. -/
theorem C18_uncatchable_never_caught_nested (env : Env) {f f' : Nat} {i i' : Instr} {c c' : Ctx} (u : UncatchableErr)
    (hinv : InvokesStar env f i c f' i' c') (h : (exec env f' i' c').1 = .error (.uncatchable u)) :
    (exec env f i c).1.isOk = false ∧ ∀ e, (exec env f i c).1 ≠ .error (.catchable e) := by
  rcases fatal_star hinv (Or.inl h) with hf | ⟨s, hf⟩ <;> rw [hf] <;> exact ⟨rfl, fun e he => by cases he⟩

/-- what the enclosing instruction returns is the *same* uncatchable error, unless a clean-up step of an
enclosing fold / next (`meet_fold_end`, `meet_next_after`: `current_depth -= 1`) panics -/
theorem C18_uncatchable_propagates_partial (env : Env) {f f' : Nat} {i i' : Instr} {c c' : Ctx} (u : UncatchableErr)
    (hinv : InvokesStar env f i c f' i' c') (h : (exec env f' i' c').1 = .error (.uncatchable u)) :
    (exec env f i c).1 = .error (.uncatchable u) ∨ ∃ s, (exec env f i c).1 = .panic s :=
  fatal_star hinv (Or.inl h)

/-- full strength: the same error, without the panic alternative.  Missing: the invariant that the scalar
depth counter after a fold body / next body equals the one before it (then the clean-up cannot underflow);
it is a whole-interpreter invariant and is left out while the interpreter model is being extended. -/
def C18_uncatchable_propagates_full : Prop :=
  ∀ (env : Env) (f f' : Nat) (i i' : Instr) (c c' : Ctx) (u : UncatchableErr),
    InvokesStar env f i c f' i' c' → (exec env f' i' c').1 = .error (.uncatchable u) →
    (exec env f i c).1 = .error (.uncatchable u)

/-- the peer id field of `:error:` for an instruction other than call (`log_errors_with_peer_id`) -/
def instrPeerId (i : Instr) (c : Ctx) : Option String := errorPeerId c none i.logErrorsWithPeerId

theorem exec_of_inner_catchable {env : Env} {fuel : Nat} {i : Instr} {c c1 : Ctx} {e : CatchableErr}
    (h : execInner env fuel i c = (.error (.catchable e), c1)) (hi : isCall i = false) :
    exec env (fuel + 1) i c = (.error (.catchable e), c1.setErrors e i.render none i.logErrorsWithPeerId) := by
  rw [exec_noncall _ _ _ _ hi, h, wrap_catchable]

theorem C18_error_faithful (env : Env) (fuel : Nat) (i : Instr) (c c1 : Ctx) (e : CatchableErr)
    (hi : isCall i = false) (h : execInner env fuel i c = (.error (.catchable e), c1))
    (hset : c1.error.canBeSet = true) :
    (exec env (fuel + 1) i c).1 = .error (.catchable e) ∧
    (exec env (fuel + 1) i c).2.error.error.error = errorFromRawFields e.code e.render i.render (instrPeerId i c1) ∧
    (exec env (fuel + 1) i c).2.error.error.error.getField "error_code" = some (.num (uncaughtOutcome e).1) ∧
    (exec env (fuel + 1) i c).2.error.error.error.getField "message" = some (.str (uncaughtOutcome e).2) ∧
    (exec env (fuel + 1) i c).2.error.error.error.getField "instruction" = some (.str i.render) ∧
    (exec env (fuel + 1) i c).2.error.canBeSet = false := by
  rw [exec_of_inner_catchable h hi]
  simp only [setErrors_error_set hset, instrPeerId, uncaughtOutcome,
    errorObj_fields, and_self]

/-- inside the catch branch: what `:error:` resolves to when the right branch starts is the object
left by the failure of the left branch -/
theorem C18_catch_branch_reads_error (e : CatchableErr) (c1 : Ctx) :
    (xorEnterRight e c1).error.error.error = c1.error.error.error ∧
    (xorEnterRight e c1).error.error.origCatchable = some e ∧
    (xorEnterRight e c1).error.canBeSet = true ∧
    (xorEnterRight e c1).lastError.error = c1.lastError.error ∧
    (xorEnterRight e c1).lastError.canBeSet = true ∧
    (∃ ts p, resolveValue (xorEnterRight e c1) (.error none) = .ok (c1.error.error.error, ts, p)) ∧
    (∃ ts p, resolveValue (xorEnterRight e c1) (.lastError none) = .ok (c1.lastError.error.error, ts, p)) := by
  refine ⟨rfl, rfl, rfl, rfl, rfl, ⟨_, _, rfl⟩, ⟨_, _, rfl⟩⟩

/-- `fail %last_error%` throws a `UserError` carrying the `%last_error%` object; when `:error:` can be set it
receives the code and message of that `UserError` — the ones the run reports if nothing catches it -/
theorem C18_fail_last_error (env : Env) (fuel : Nat) (c : Ctx)
    (hobj : checkErrorObject c.lastError.error.error = .ok ()) (hset : c.error.canBeSet = true) :
    let e := CatchableErr.userError c.lastError.error.error
    (exec env (fuel + 1) (.fail .lastError) c).1 = .error (.catchable e) ∧
    (exec env (fuel + 1) (.fail .lastError) c).2.error.error.error = errorFromRawFields e.code e.render "fail %last_error%" none ∧
    (exec env (fuel + 1) (.fail .lastError) c).2.lastError.error.error = c.lastError.error.error := by
  intro e
  rw [exec_of_inner_catchable (inner_fail_throws env fuel .lastError c nofun (failOperand_lastError c hobj)) rfl]
  dsimp only
  rw [setErrors_error_set (by exact hset), setErrors_lastError_keep (Or.inl rfl)]
  exact ⟨rfl, rfl, rfl⟩

theorem exec_catchable_setErrors (env : Env) (fuel : Nat) (i : Instr) (c : Ctx) (e : CatchableErr)
    (h : (exec env fuel i c).1 = .error (.catchable e)) :
    ∃ (c1 : Ctx) (t : Option Tetraplet) (b : Bool), (exec env fuel i c).2 = c1.setErrors e i.render t b := by
  cases fuel with
  | zero => rw [exec_zero] at h; cases h
  | succ fuel =>
    cases hi : isCall i
    · rw [exec_noncall _ _ _ _ hi, wrap_fst] at h
      exact ⟨_, none, _, congrArg Prod.snd (exec_of_inner_catchable (Prod.ext h rfl) hi)⟩
    · cases i <;> cases hi
      rw [exec_call] at h ⊢
      obtain ⟨t, c1, _, hc⟩ := call_fails_cases (Prod.ext h rfl)
      exact ⟨c1, t, true, hc⟩

/-- whenever an instruction — any instruction, `call` included — ends with a catchable error, `:error:`
setting is disabled afterwards (until the right branch of an enclosing xor re-enables it) -/
theorem C18_error_set_once (env : Env) (fuel : Nat) (i : Instr) (c : Ctx) (e : CatchableErr)
    (h : (exec env fuel i c).1 = .error (.catchable e)) : (exec env fuel i c).2.error.canBeSet = false := by
  obtain ⟨c1, t, b, hc⟩ := exec_catchable_setErrors env fuel i c e h
  rw [hc]; exact setErrors_disables c1 e _ t b

/-- bubbling does not overwrite: when the body of a (non-call) instruction returns a catchable failure
in a context where `:error:` is already disabled — by C18_error_set_once this is the case whenever the
failure comes from a sub-instruction — the `execute!` wrapper leaves `:error:` exactly as it is; likewise
`%last_error%` when it is disabled -/
theorem C18_error_not_overwritten (env : Env) (fuel : Nat) (i : Instr) (c c1 : Ctx) (e : CatchableErr)
    (hi : isCall i = false) (h : execInner env fuel i c = (.error (.catchable e), c1)) :
    (c1.error.canBeSet = false → (exec env (fuel + 1) i c).2.error = c1.error) ∧
    (c1.lastError.canBeSet = false → (exec env (fuel + 1) i c).2.lastError = c1.lastError) := by
  rw [exec_of_inner_catchable h hi]
  dsimp only
  exact ⟨setErrors_error_keep, fun h1 => setErrors_lastError_keep (Or.inl h1)⟩

theorem disabled_of_fails {env : Env} {fuel : Nat} {i : Instr} {c c1 : Ctx} {e : CatchableErr}
    (h : exec env fuel i c = (.error (.catchable e), c1)) : c1.error.canBeSet = false := by
  simpa only [h] using C18_error_set_once env fuel i c e (by rw [h])

theorem bubble_of_inner {env : Env} {fuel : Nat} {i sub : Instr} {c cs c1 c2 : Ctx} {e : CatchableErr}
    (hi : isCall i = false)
    (hsub : exec env fuel sub cs = (.error (.catchable e), c1))
    (hin : execInner env fuel i c = (.error (.catchable e), c2)) (herr : c2.error = c1.error) :
    (exec env (fuel + 1) i c).1 = .error (.catchable e) ∧ (exec env (fuel + 1) i c).2.error = c1.error := by
  rw [exec_of_inner_catchable hin hi]
  dsimp only
  exact ⟨rfl, (setErrors_error_keep (herr ▸ disabled_of_fails hsub)).trans herr⟩

theorem C18_bubble_seq_left (env : Env) (fuel : Nat) (l r : Instr) (c c1 : Ctx) (e : CatchableErr)
    (h : exec env fuel l (flush c) = (.error (.catchable e), c1)) :
    (exec env (fuel + 1) (.seq l r) c).1 = .error (.catchable e) ∧ (exec env (fuel + 1) (.seq l r) c).2.error = c1.error := by
  refine bubble_of_inner rfl h ?_ rfl
  unfold execInner
  rw [bind_modifyCtx, bind_of_error h]

theorem C18_bubble_seq_right (env : Env) (fuel : Nat) (l r : Instr) (c c1 c2 : Ctx) (e : CatchableErr)
    (hl : exec env fuel l (flush c) = (.ok (), c1)) (hc : c1.subgraphComplete = true)
    (h : exec env fuel r c1 = (.error (.catchable e), c2)) :
    (exec env (fuel + 1) (.seq l r) c).1 = .error (.catchable e) ∧ (exec env (fuel + 1) (.seq l r) c).2.error = c2.error := by
  refine bubble_of_inner rfl h ?_ rfl
  unfold execInner
  rw [bind_modifyCtx, bind_of_ok hl, bind_readCtx]
  simp only [hc, if_true]; exact h

theorem C18_bubble_match (env : Env) (fuel : Nat) (a b : Value) (body : Instr) (c c1 : Ctx) (e : CatchableErr)
    (hm : areMatchableEq c a b = .ok true) (h : exec env fuel body c = (.error (.catchable e), c1)) :
    (exec env (fuel + 1) (.match_ a b body) c).1 = .error (.catchable e) ∧
    (exec env (fuel + 1) (.match_ a b body) c).2.error = c1.error := by
  refine bubble_of_inner rfl h ?_ rfl
  unfold execInner
  rw [bind_of_ok (joinable_of_ok (readER_of_ok hm))]; exact h

/-- `clear_error_object_if_needed` and the re-enabling do nothing after a failed right branch: the failure
has disabled `:error:` -/
theorem xorLeaveRight_of_disabled {c : Ctx} (h : c.error.canBeSet = false) : xorLeaveRight false c = c := by
  simp [xorLeaveRight, h]

theorem exec_xor_right_fails (env : Env) (fuel : Nat) (l r : Instr) (c c1 c2 : Ctx) (e e2 : CatchableErr)
    (hl : exec env fuel l (flush c) = (.error (.catchable e), c1))
    (h : exec env fuel r (xorEnterRight e c1) = (.error (.catchable e2), c2)) :
    exec env (fuel + 1) (.xor l r) c =
      (.error (.catchable e2), c2.setErrors e2 (Instr.xor l r).render none (Instr.xor l r).logErrorsWithPeerId) := by
  rw [C18_xor_catches env fuel l r c c1 e hl, xorCaught, h]
  dsimp only [Res.isOk]
  rw [xorLeaveRight_of_disabled (disabled_of_fails h)]; rfl

/-- a failure of the catch branch itself bubbles out of the xor with the `:error:` it set -/
theorem C18_bubble_xor_right (env : Env) (fuel : Nat) (l r : Instr) (c c1 c2 : Ctx) (e e2 : CatchableErr)
    (hl : exec env fuel l (flush c) = (.error (.catchable e), c1))
    (h : exec env fuel r (xorEnterRight e c1) = (.error (.catchable e2), c2)) :
    (exec env (fuel + 1) (.xor l r) c).1 = .error (.catchable e2) ∧ (exec env (fuel + 1) (.xor l r) c).2.error = c2.error := by
  rw [exec_xor_right_fails env fuel l r c c1 c2 e e2 hl h]
  dsimp only
  exact ⟨rfl, setErrors_error_keep (disabled_of_fails h)⟩

/-- `fail :error:` in a catch branch re-raises the original error and leaves `:error:` as the failure
set it: if `l` fails with `e` leaving a valid error object in `:error:`, then `(xor l (fail :error:))` fails
with the same `e`, `:error:` still holds the same object and stays disabled for setting while bubbling. -/
theorem C18_fail_error_reraises (env : Env) (fuel : Nat) (l : Instr) (c c1 : Ctx) (e : CatchableErr)
    (h : exec env (fuel + 1) l (flush c) = (.error (.catchable e), c1))
    (hobj : checkErrorObject c1.error.error.error = .ok ()) :
    (exec env (fuel + 2) (.xor l (.fail .error)) c).1 = .error (.catchable e) ∧
    (exec env (fuel + 2) (.xor l (.fail .error)) c).2.error.error.error = c1.error.error.error ∧
    (exec env (fuel + 2) (.xor l (.fail .error)) c).2.error.canBeSet = false ∧
    (exec env (fuel + 2) (.xor l (.fail .error)) c).2.lastError.error.error = c1.error.error.error := by
  -- the catch branch fails with `failErrorRaises (xorEnterRight e c1)`, which is `e`, `:error:` disabled
  have hr := exec_of_inner_catchable (inner_fail_error env fuel (xorEnterRight e c1) hobj) rfl
  rw [exec_xor_right_fails env (fuel + 1) l _ c c1 _ e e h hr]
  dsimp only
  rw [setErrors_error_keep (setErrors_disables ..), setErrors_error_keep rfl,
    setErrors_lastError_keep (.inl (by rw [setErrors_lastError_keep (.inl rfl)])), setErrors_lastError_keep (.inl rfl)]
  exact ⟨rfl, rfl, rfl, rfl⟩

theorem C18_bubble_new (env : Env) (fuel : Nat) (name : String) (body : Instr) (sl sr : Nat) (c c1 : Ctx) (e : CatchableErr)
    (h : exec env fuel body { c with scalars := c.scalars.meetNewStartScalar name } = (.error (.catchable e), c1)) :
    (exec env (fuel + 1) (.new (.scalar name) body sl sr) c).1 = .error (.catchable e) ∧
    (exec env (fuel + 1) (.new (.scalar name) body sl sr) c).2.error = c1.error := by
  obtain ⟨b, c', hn⟩ := newLeave_ok name c1
  have herr : c'.error = c1.error := by cases hn; rfl
  refine bubble_of_inner rfl h ?_ herr
  unfold execInner
  dsimp only
  rw [bind_modifyCtx, bind_tryM, h]
  dsimp only
  rw [bind_of_ok (stateER_of_ok hn)]; rfl

/-- full strength of "not overwritten while bubbling": the same for the remaining frames (a scalar fold body
— needs `meet_fold_end` not to underflow —, `next`, and `par` when both subgraphs fail).  Not proved. -/
def C18_error_bubbles_full : Prop :=
  ∀ (env : Env) (f f' : Nat) (i i' : Instr) (c c' c1 : Ctx) (e : CatchableErr),
    Invokes env f i c f' i' c' → exec env f' i' c' = (.error (.catchable e), c1) →
    (exec env f i c).1 = .error (.catchable e) → (exec env f i c).2.error = c1.error

theorem affectsLastError_iff (e : CatchableErr) :
    e.affectsLastError = false ↔ (e = .matchValuesNotEqual ∨ e = .mismatchValuesEqual) := by
  cases e <;> simp [CatchableErr.affectsLastError]

/-- a failing match sets `:error:` (code and message of `MatchValuesNotEqual`) and leaves `%last_error%`
exactly as it was — also when `%last_error%` could be set -/
theorem C18_match_not_last_error (env : Env) (fuel : Nat) (a b : Value) (body : Instr) (c : Ctx)
    (h : areMatchableEq c a b = .ok false) :
    (exec env (fuel + 1) (.match_ a b body) c).1 = .error (.catchable .matchValuesNotEqual) ∧
    (exec env (fuel + 1) (.match_ a b body) c).2.lastError = c.lastError ∧
    (c.error.canBeSet = true →
      (exec env (fuel + 1) (.match_ a b body) c).2.error.error.error =
        errorFromRawFields CatchableErr.matchValuesNotEqual.code "compared values do not match" (Instr.match_ a b body).render none) := by
  rw [exec_of_inner_catchable (inner_match_fails env fuel a b body c h) rfl]
  dsimp only
  refine ⟨rfl, setErrors_lastError_keep (Or.inr rfl), fun hset => ?_⟩
  rw [setErrors_error_set hset]; rfl

theorem C18_mismatch_not_last_error (env : Env) (fuel : Nat) (a b : Value) (body : Instr) (c : Ctx)
    (h : areMatchableEq c a b = .ok true) :
    (exec env (fuel + 1) (.mismatch a b body) c).1 = .error (.catchable .mismatchValuesEqual) ∧
    (exec env (fuel + 1) (.mismatch a b body) c).2.lastError = c.lastError ∧
    (c.error.canBeSet = true →
      (exec env (fuel + 1) (.mismatch a b body) c).2.error.error.error =
        errorFromRawFields CatchableErr.mismatchValuesEqual.code "compared values do not mismatch" (Instr.mismatch a b body).render none) := by
  rw [exec_of_inner_catchable (inner_mismatch_fails env fuel a b body c h) rfl]
  dsimp only
  refine ⟨rfl, setErrors_lastError_keep (Or.inr rfl), fun hset => ?_⟩
  rw [setErrors_error_set hset]; rfl

/-- every other catchable failure of a non-call instruction does set `%last_error%` (when enabled), with the
same code and message as `:error:` and with the current peer's id -/
theorem C18_last_error_faithful (env : Env) (fuel : Nat) (i : Instr) (c c1 : Ctx) (e : CatchableErr)
    (hi : isCall i = false) (h : execInner env fuel i c = (.error (.catchable e), c1))
    (hset : c1.lastError.canBeSet = true) (ha : e.affectsLastError = true) :
    (exec env (fuel + 1) i c).2.lastError.error.error =
      errorFromRawFields (uncaughtOutcome e).1 (uncaughtOutcome e).2 i.render (some c1.currentPeerId) ∧
    (exec env (fuel + 1) i c).2.lastError.canBeSet = false := by
  rw [exec_of_inner_catchable h hi]
  dsimp only
  rw [setErrors_lastError_set hset ha]
  exact ⟨rfl, rfl⟩

/-- a failing call reports faithfully, with the peer id: `:error:` (when it can be set) holds the code and
message of the error, the call's text, the resolved triplet as tetraplet and as `peer_id` the peer the
triplet names (a failure recorded in the data may come from another peer) or, when the triplet itself does
not resolve, the current peer -/
theorem C18_call_error_faithful (env : Env) (fuel : Nat) (p s f : Value) (args : List Value) (out : CallOutput)
    (c c' : Ctx) (e : CatchableErr)
    (h : exec env (fuel + 1) (.call p s f args out) c = (.error (.catchable e), c')) :
    ∃ (t : Option Tetraplet) (c1 : Ctx),
      ((t = none ∧ c1 = c ∧ resolveCall c p s f out = .error (.catchable e)) ∨
       (∃ t', t = some t' ∧ resolveCall c p s f out = .ok t' ∧
          resolvedExecute env (.call p s f args out) t' args out c = (.error (.catchable e), c1))) ∧
      c' = c1.setErrors e (Instr.call p s f args out).render t true ∧
      (c1.error.canBeSet = true →
        c'.error.error.error = errorFromRawFields (uncaughtOutcome e).1 (uncaughtOutcome e).2 (Instr.call p s f args out).render
            (some (match t with | some t => t.peerPk | none => c1.currentPeerId)) ∧
        c'.error.error.tetraplet = t ∧
        c'.error.error.error.getField "error_code" = some (.num (uncaughtOutcome e).1) ∧
        c'.error.error.error.getField "message" = some (.str (uncaughtOutcome e).2) ∧
        c'.error.error.error.getField "peer_id" = some (.str (match t with | some t => t.peerPk | none => c1.currentPeerId))) := by
  rw [exec_call] at h
  obtain ⟨t, c1, hd, hc⟩ := call_fails_cases h
  refine ⟨t, c1, hd, hc, fun hset => ?_⟩
  rw [hc, setErrors_error_set hset]
  cases t <;> simp only [errorObj_fields, errorPeerId, uncaughtOutcome, if_true, Option.map, and_self]

def env0 : Env := { hash := fun s => s, parseJson := fun _ => none }
/-- the context at the start of a run (`ExecutionCtx::new` on empty data) -/
def c0 : Ctx := initCtx {} {} { initPeerId := "init", currentPeerId := "me", timestamp := 1, ttl := 2 } []
/-- `(fail 7 "x")` -/
def failI : Instr := .fail (.literal 7 "x")

example : c0.error.canBeSet = true ∧ c0.lastError.canBeSet = true := ⟨rfl, rfl⟩

/-- left branches that are not caught: `(null)` succeeds, `(never)` "waits" (success, incomplete subgraph),
`(next i)` outside a fold fails uncatchably -/
theorem null_ok : exec env0 1 .null (flush c0) = (.ok (), flush c0) := by
  rw [exec_noncall _ _ _ _ rfl]; unfold execInner; rfl
theorem never_waits : (exec env0 1 .never (flush c0)).1 = .ok () ∧ (exec env0 1 .never (flush c0)).2.subgraphComplete = false := by
  rw [exec_noncall _ _ _ _ rfl]; unfold execInner; exact ⟨rfl, rfl⟩
theorem next_uncatchable (c : Ctx) (h : c.scalars.iterable = []) :
    (exec env0 1 (.next "i") c).1 = .error (.uncatchable (.foldStateNotFound "i")) := by
  have h0 : c.scalars.getIterable "i" = .error (.uncatchable (.foldStateNotFound "i")) := by
    simp [Scalars.getIterable, h, uncatchable]
  rw [exec_noncall _ _ _ _ rfl, wrap_fst]; unfold execInner
  rw [bind_of_error (readER_of_error h0)]

example : exec env0 2 (.xor .null failI) c0 = (.ok (), flush c0) :=
  C18_ok_or_waiting_left_not_caught env0 1 .null failI c0 _ null_ok
example : (exec env0 2 (.xor .never failI) c0).1 = .ok () := by
  rw [C18_xor_left_returned env0 1 .never failI c0 (by rw [never_waits.1]; intro e h; cases h)]; exact never_waits.1
example : (exec env0 2 (.xor (.next "i") failI) c0).1 = .error (.uncatchable (.foldStateNotFound "i")) :=
  (C18_uncatchable_never_caught env0 1 (.next "i") failI c0 _ (next_uncatchable _ rfl)).2

/-- two nested xors around the uncatchable failure: `(xor (xor (next i) (null)) (null))` -/
example : (exec env0 3 (.xor (.xor (.next "i") .null) .null) c0).1.isOk = false :=
  (C18_uncatchable_never_caught_nested env0 (.foldStateNotFound "i")
    (.step (.xorLeft 2 _ _ c0) (.step (.xorLeft 1 _ _ (flush c0)) (.refl _ _ _))) (next_uncatchable _ rfl)).1

/-- `(fail 7 "x")` fails catchably from the initial context -/
theorem fail_lit_fails : ∃ e c1, exec env0 1 failI (flush c0) = (.error (.catchable e), c1) ∧ c1.error.canBeSet = false :=
  ⟨_, _, exec_of_inner_catchable (inner_fail_throws env0 0 _ (flush c0) nofun rfl) rfl,
    setErrors_disables _ _ _ _ _⟩

/-- `(xor (fail 7 "x") (null))`: the catch branch runs and the xor succeeds -/
example : (exec env0 2 (.xor failI .null) c0).1 = .ok () := by
  obtain ⟨e, c1, h, _⟩ := fail_lit_fails
  rw [C18_xor_catches env0 1 failI .null c0 c1 e h]
  unfold xorCaught
  rw [exec_noncall _ _ _ _ rfl]; unfold execInner; rfl

/-- `(match 1 2 (null))` / `(mismatch 1 1 (null))` meet the hypotheses of C18_match_not_last_error, C18_error_faithful -/
example : areMatchableEq c0 (.number 1) (.number 2) = .ok false := rfl
example : areMatchableEq c0 (.number 1) (.number 1) = .ok true := rfl
example : execInner env0 0 (.match_ (.number 1) (.number 2) .null) c0 = (.error (.catchable .matchValuesNotEqual), c0) :=
  inner_match_fails env0 0 _ _ _ c0 rfl

/-- `(seq (fail 7 "x") (null))`: hypothesis of C18_bubble_seq_left -/
example : ∃ e, (exec env0 2 (.seq failI .null) c0).1 = .error (.catchable e) := by
  obtain ⟨e, c1, h, _⟩ := fail_lit_fails
  exact ⟨e, (C18_bubble_seq_left env0 1 failI .null c0 c1 e h).1⟩

theorem checkErrorObject_errorObj (code : Int) (msg instr : String) (p : Option String)
    (h0 : code ≠ 0) (hmax : code ≤ 9223372036854775807) :
    checkErrorObject (errorFromRawFields code msg instr p) = .ok () := by
  obtain ⟨hc, hm, -⟩ := errorObj_fields code msg instr p
  obtain ⟨kvs, hk⟩ : ∃ kvs, errorFromRawFields code msg instr p = .obj kvs := ⟨_, errorFromRawFields_eq ..⟩
  rw [hk] at hc hm ⊢
  simp [checkErrorObject, hc, hm, h0, Int.not_lt.mpr hmax]

/-- the positional code of `UserError` (read from the generated variant table) is a non-zero i64 -/
theorem userError_code_ok (v : JVal) :
    CatchableErr.code (.userError v) ≠ 0 ∧ CatchableErr.code (.userError v) ≤ 9223372036854775807 := by
  show (Run.errorCode? .catchable "UserError").getD 0 ≠ 0 ∧ (Run.errorCode? .catchable "UserError").getD 0 ≤ 9223372036854775807
  decide +kernel

/-- `(xor (fail 7 "x") (fail :error:))` meets the hypotheses of C18_fail_error_reraises -/
example : ∃ e, (exec env0 2 (.xor failI (.fail .error)) c0).1 = .error (.catchable e) := by
  have h := exec_of_inner_catchable (i := failI) (inner_fail_throws env0 0 _ (flush c0) nofun rfl) rfl
  refine ⟨_, (C18_fail_error_reraises env0 0 failI c0 _ _ h ?_).1⟩
  show checkErrorObject (Ctx.setErrors _ _ _ _ _).error.error.error = _
  rw [setErrors_error_set rfl]
  simp only []
  exact checkErrorObject_errorObj _ _ _ _ (userError_code_ok _).1 (userError_code_ok _).2

/-- a context after an earlier caught failure: `%last_error%` holds an error object; hypotheses of C18_fail_last_error -/
def cLast : Ctx := { c0 with lastError := { error := ⟨errorFromRawFields 10006 "m" "fail 1 \"m\"" (some "me"), none, .literal, none⟩, canBeSet := true } }
example : checkErrorObject cLast.lastError.error.error = .ok () ∧ cLast.error.canBeSet = true :=
  ⟨checkErrorObject_errorObj 10006 "m" "fail 1 \"m\"" (some "me") (by decide) (by decide), rfl⟩

/-- a context in which the scalar `x` holds the number 5: `(call x ("s" "f") [])` cannot resolve its triplet -/
def cX : Ctx := { c0 with scalars := { nonIterable := { cells := [("x", [⟨0, some ⟨.num 5, Tetraplet.literal "init", 0, .literal⟩⟩])] } } }
def callX : Instr := .call (.scalar "x") (.literal "s") (.literal "f") [] .none
theorem callX_fails : exec env0 1 callX cX = (.error (.catchable (.nonStringValueInTripletResolution "x" (.num 5))),
    cX.setErrors (.nonStringValueInTripletResolution "x" (.num 5)) callX.render none true) := by
  rw [callX, exec_call]; rfl
example : ∃ (t : Option Tetraplet) (c1 : Ctx),
    (exec env0 1 callX cX).2 = c1.setErrors (.nonStringValueInTripletResolution "x" (.num 5)) callX.render t true := by
  obtain ⟨t, c1, _, hc, _⟩ := C18_call_error_faithful env0 0 _ _ _ _ _ cX _ _ callX_fails
  exact ⟨t, c1, by rw [callX_fails]; exact hc⟩

end AquaProps.C18
