import AquaProps.Lemmas.MergeLattice
/-!
# C08 — merge results do not depend on delivery order or grouping

Proved (all states): the per-state call merge is commutative up to the sender of a pending request and
associative on content; success/failure does not depend on the order.  The run-level statement over
sets of data (`C08_full`) is explored by the oracle (all permutations of up to four data, random
groupings) and not proved (`_partial`).
-/
namespace AquaProps.C08
open Aqua Aqua.Data Aqua.Trace AquaProps.Merge

def C08_full (knowledge : α → List (String × String)) (merge : List α → Option α) : Prop :=
  ∀ l l' : List α, l.Perm l' → ∀ m m', merge l = some m → merge l' = some m' →
    ∀ r, (knowledge m).count r = (knowledge m').count r

theorem C08_call_merge_commutes_partial (p c : CallResult) :
    (∀ m s, mergeCallResults p c = .ok (m, s) → ∃ m' s', mergeCallResults c p = .ok (m', s') ∧ contentOf m' = contentOf m) ∧
    (∀ e, mergeCallResults p c = .error e → ∃ e', mergeCallResults c p = .error e') := mergeCall_comm p c

theorem C08_call_merge_associates_partial (a b c ab abc bc abc' : CallResult) (s1 s2 s3 s4 : PreparationScheme)
    (h1 : mergeCallResults a b = .ok (ab, s1)) (h2 : mergeCallResults ab c = .ok (abc, s2))
    (h3 : mergeCallResults b c = .ok (bc, s3)) (h4 : mergeCallResults a bc = .ok (abc', s4)) :
    contentOf abc = contentOf abc' := mergeCall_assoc a b c ab abc bc abc' s1 s2 s3 s4 h1 h2 h3 h4

/-- only the sender of a pending request can differ between the two orders -/
theorem C08_only_sender_differs_partial (p c m m' : CallResult) (s s' : PreparationScheme)
    (h : mergeCallResults p c = .ok (m, s)) (h' : mergeCallResults c p = .ok (m', s')) : contentOf m = contentOf m' :=
  mergeCall_content_unique h h'

example : mergeCallResults (.requestSentBy (.peerId "a")) (.requestSentBy (.peerId "b")) = .ok (.requestSentBy (.peerId "a"), .previous) := rfl
example : mergeCallResults (.requestSentBy (.peerId "b")) (.requestSentBy (.peerId "a")) = .ok (.requestSentBy (.peerId "b"), .previous) := rfl

end AquaProps.C08
