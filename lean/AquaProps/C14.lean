import AquaProps.Lemmas.VerifyData
import AquaProps.Lemmas.SaltedData
import AquaProps.Lemmas.UseSite
import AquaProps.Lemmas.C14Toy
import Aqua.Exec.Run
/-!
# C14 — forged or replayed results of other peers are never accepted

Model: `Aqua.Run.VerifyData` (the verification step: `CidInfo::verify`, `DataVerifier::{new,verify}`,
`collect_peers_cids_from_trace`), `Aqua.Crypto.SigScheme` (what is signed — the borsh bytes of the
sorted CID list and the particle id — and the symbolic signature scheme), `Aqua.Exec.Call`
(`handle_prev_state`: where a result from merged data enters the execution context).

The current data `cur` is universally quantified everywhere: it is whatever the attacker sends.
The attacker is limited only by the signature scheme (`SigScheme.verify_iff`, `SigScheme.Free`).
-/
namespace AquaProps.C14
open Aqua Aqua.Data Aqua.Exec Aqua.Run Aqua.Crypto AquaProps.VerifyLemmas AquaProps.SaltedData AquaProps.UseSite

/-- If the verification step accepts `cur` for particle `particle`
then for every state of the trace attributed (through the stores) to a peer `q` under CID `cid`,
the signature store holds a key of `q` whose signature verifies over *the sorted list of all CIDs
attributed to `q` in this trace* salted with *this* particle id; `cid` is a member of that list. -/
theorem C14_verified_cids_signed (E : VerifyEnv) (cur : VData E) (particle : String)
    (h : verifyData E cur particle = .ok ()) :
    ∀ st ∈ cur.trace, ∀ q cid, stateContribution cur.cidInfo st = .ok (some (q, cid)) →
      cid ∈ sortCids (peerCids cur.cidInfo cur.trace q) ∧
      ∃ pk sig m, (pk, sig) ∈ cur.signatures ∧ E.validate pk = true ∧ E.toPeerId pk = q ∧
        saltedData (sortCids (peerCids cur.cidInfo cur.trace q)) particle = some m ∧
        E.verifySig pk m sig = true := by
  intro st hst q cid hq
  obtain ⟨_, hval, _, hall⟩ := verifyData_ok h
  obtain ⟨pk, sig, m, hmem, hpid, hm, hv⟩ := hall st hst q cid hq
  refine ⟨?_, pk, sig, m, hmem, hval _ hmem, hpid, hm, hv⟩
  have : cid ∈ peerCids cur.cidInfo cur.trace q := by
    unfold peerCids
    exact List.mem_filterMap.mpr ⟨st, hst, by simp [hq]⟩
  exact (List.mergeSort_perm _ _).mem_iff.mpr this

/-- under the symbolic scheme: the stored signature *is* the term `sign sk m` for the secret key of the
owner's public key and `m` = the salted, sorted CID list — only the owner of `sk` can have built it -/
theorem C14_verified_cids_signed_by_owner (S : SigScheme) (validate : S.PublicKey → Bool)
    (toPeerId keyText : S.PublicKey → String) (sigText : S.Sig → String)
    (cidCheck : Cid → Bytes → Except CidVerificationError Unit)
    (cur : VData (VerifyEnv.ofScheme S validate toPeerId keyText sigText cidCheck)) (particle : String)
    (h : verifyData _ cur particle = .ok ()) :
    ∀ st ∈ cur.trace, ∀ q cid, stateContribution cur.cidInfo st = .ok (some (q, cid)) →
      ∃ (sk : S.SecretKey) (m : Bytes), (S.pub sk, S.sign sk m) ∈ cur.signatures ∧ toPeerId (S.pub sk) = q ∧
        saltedData (sortCids (peerCids cur.cidInfo cur.trace q)) particle = some m := by
  intro st hst q cid hq
  obtain ⟨_, pk, sig, m, hmem, _, hpid, hm, hv⟩ := C14_verified_cids_signed _ cur particle h st hst q cid hq
  obtain ⟨sk, rfl, rfl⟩ := (S.verify_iff pk m sig).mp hv
  exact ⟨sk, m, hmem, hpid, hm⟩

/-- peers of the signature store *without* any result in the trace are checked too: their signature
must cover the empty list for this particle (a stale signature of a peer whose results were removed
is rejected) -/
theorem C14_every_stored_signature_checked (E : VerifyEnv) (cur : VData E) (particle : String)
    (h : verifyData E cur particle = .ok ()) :
    ∀ s ∈ cur.signatures, ∃ pk sig m, (pk, sig) ∈ cur.signatures ∧ E.toPeerId pk = E.toPeerId s.1 ∧
      saltedData (sortCids (peerCids cur.cidInfo cur.trace (E.toPeerId s.1))) particle = some m ∧
      E.verifySig pk m sig = true :=
  (verifyData_ok h).2.2.1

/-- what the verification step does NOT see (the formal side of the known finding
`call-result-kind-not-authenticated`): a `failed(cid)` state, an `executed(scalar cid)` state and an
`executed(stream cid g)` state contribute the same (peer, cid) to the signed lists — the Executed/Failed kind
of a call result is covered neither by the CID (same aggregate) nor by the signature -/
theorem C14_kind_invisible_to_verification (ci : CidInfo) (cid : Cid) (g : Nat) :
    stateContribution ci (.call (.failed cid)) = stateContribution ci (.call (.executed (.scalar cid))) ∧
    stateContribution ci (.call (.executed (.stream cid g))) = stateContribution ci (.call (.executed (.scalar cid))) := by
  simp [stateContribution, CallResult.getCid]

/-- the hash check is collision free and the serialisations injective *on the inputs compared*:
two values accepted under the same CID are equal (per store) -/
structure ContentBinding (E : VerifyEnv) : Prop where
  value : ∀ cid (a b : String), E.cidCheck cid (strBytes a) = .ok () → E.cidCheck cid (strBytes b) = .ok () → a = b
  tetraplet : ∀ cid (a b : Tetraplet), E.cidCheck cid (strBytes a.json) = .ok () → E.cidCheck cid (strBytes b.json) = .ok () → a = b
  serviceResult : ∀ cid (a b : ServiceResultAgg), E.cidCheck cid (strBytes a.json) = .ok () → E.cidCheck cid (strBytes b.json) = .ok () → a = b
  canonElement : ∀ cid (a b : CanonCidAggregate), E.cidCheck cid (strBytes a.json) = .ok () → E.cidCheck cid (strBytes b.json) = .ok () → a = b
  canonResult : ∀ cid (a b : CanonResultCidAggregate), E.cidCheck cid (strBytes a.json) = .ok () → E.cidCheck cid (strBytes b.json) = .ok () → a = b

/-- what a call-result CID stands for: (value text, tetraplet, argument hash) -/
def resolveResult (ci : CidInfo) (cid : Cid) : Option (String × Tetraplet × String) :=
  match lookup ci.serviceResults cid with
  | none => none
  | some sr =>
    match lookup ci.values sr.valueCid, lookup ci.tetraplets sr.tetrapletCid with
    | some v, some t => some (v, t, sr.argumentHash)
    | _, _ => none

/-- what a canon element CID stands for: (value text, tetraplet, provenance) -/
def resolveCanonElement (ci : CidInfo) (cid : Cid) : Option (String × Tetraplet × Provenance) :=
  match lookup ci.canonElements cid with
  | none => none
  | some ce =>
    match lookup ci.values ce.value, lookup ci.tetraplets ce.tetraplet with
    | some v, some t => some (v, t, ce.provenance)
    | _, _ => none

/-- what a canon-result CID stands for: the canon tetraplet and the elements -/
def resolveCanon (ci : CidInfo) (cid : Cid) : Option (Tetraplet × List (Option (String × Tetraplet × Provenance))) :=
  match lookup ci.canonResults cid with
  | none => none
  | some cr =>
    match lookup ci.tetraplets cr.tetraplet with
    | some t => some (t, cr.values.map (resolveCanonElement ci))
    | none => none

theorem resolveResult_eq_some {ci : CidInfo} {cid : Cid} {r : String × Tetraplet × String} :
    resolveResult ci cid = some r ↔ ∃ sr v t, lookup ci.serviceResults cid = some sr ∧
      lookup ci.values sr.valueCid = some v ∧ lookup ci.tetraplets sr.tetrapletCid = some t ∧ (v, t, sr.argumentHash) = r := by
  unfold resolveResult
  constructor
  · intro h
    split at h <;> try cases h
    split at h <;> cases h
    exact ⟨_, _, _, ‹_›, ‹_›, ‹_›, rfl⟩
  · rintro ⟨sr, v, t, hs, hv, ht, rfl⟩
    simp only [hs, hv, ht]

theorem resolveCanon_eq_some {ci : CidInfo} {cid : Cid} {r : Tetraplet × List (Option (String × Tetraplet × Provenance))} :
    resolveCanon ci cid = some r ↔ ∃ cr t, lookup ci.canonResults cid = some cr ∧
      lookup ci.tetraplets cr.tetraplet = some t ∧ (t, cr.values.map (resolveCanonElement ci)) = r := by
  unfold resolveCanon
  constructor
  · intro h
    split at h <;> try cases h
    split at h <;> cases h
    exact ⟨_, _, ‹_›, ‹_›, rfl⟩
  · rintro ⟨cr, t, hc, ht, rfl⟩
    simp only [hc, ht]

theorem lookup_bound {α : Type} {check : Cid → α → Prop} {l₁ l₂ : List (Cid × α)} {c : Cid} {a b : α}
    (hinj : ∀ cid a b, check cid a → check cid b → a = b) (ok₁ : ∀ cid v, (cid, v) ∈ l₁ → check cid v)
    (ok₂ : ∀ cid v, (cid, v) ∈ l₂ → check cid v) (h₁ : lookup l₁ c = some a) (h₂ : lookup l₂ c = some b) : a = b :=
  hinj c a b (ok₁ _ _ (lookup_mem h₁)) (ok₂ _ _ (lookup_mem h₂))

/-- In any two verified CID stores (say the honest data and a tampered copy)
the same call-result CID stands for the same value, the same tetraplet (peer, service, function,
lens) and the same argument hash: none of them can be altered while keeping the CID. -/
theorem C14_content_bound (E : VerifyEnv) (hb : ContentBinding E) (ci₁ ci₂ : CidInfo)
    (h₁ : ci₁.verify E = .ok ()) (h₂ : ci₂.verify E = .ok ()) (cid : Cid)
    (r₁ r₂ : String × Tetraplet × String)
    (hr₁ : resolveResult ci₁ cid = some r₁) (hr₂ : resolveResult ci₂ cid = some r₂) : r₁ = r₂ := by
  have s₁ := verify_ok h₁
  have s₂ := verify_ok h₂
  obtain ⟨a₁, v₁, t₁, ha₁, hv₁, ht₁, rfl⟩ := resolveResult_eq_some.mp hr₁
  obtain ⟨a₂, v₂, t₂, ha₂, hv₂, ht₂, rfl⟩ := resolveResult_eq_some.mp hr₂
  obtain rfl := lookup_bound hb.serviceResult s₁.serviceResult s₂.serviceResult ha₁ ha₂
  rw [lookup_bound hb.value s₁.value s₂.value hv₁ hv₂, lookup_bound hb.tetraplet s₁.tetraplet s₂.tetraplet ht₁ ht₂]

/-- in a verified store every stored call result resolves (no dangling references) -/
theorem C14_content_present (E : VerifyEnv) (ci : CidInfo) (h : ci.verify E = .ok ()) (cid : Cid) (a : ServiceResultAgg)
    (ha : lookup ci.serviceResults cid = some a) : ∃ r, resolveResult ci cid = some r := by
  obtain ⟨⟨t, ht⟩, ⟨v, hv⟩⟩ := (verify_ok h).srRefs _ _ (lookup_mem ha)
  exact ⟨_, resolveResult_eq_some.mpr ⟨a, v, t, ha, hv, ht, rfl⟩⟩

theorem resolveCanonElement_bound (E : VerifyEnv) (hb : ContentBinding E) (ci₁ ci₂ : CidInfo)
    (s₁ : StoresOk E ci₁) (s₂ : StoresOk E ci₂) (cid : Cid)
    (e₁ : CanonCidAggregate) (e₂ : CanonCidAggregate)
    (h₁ : lookup ci₁.canonElements cid = some e₁) (h₂ : lookup ci₂.canonElements cid = some e₂) :
    resolveCanonElement ci₁ cid = resolveCanonElement ci₂ cid := by
  obtain rfl := lookup_bound hb.canonElement s₁.canonElement s₂.canonElement h₁ h₂
  obtain ⟨⟨t₁, ht₁⟩, ⟨v₁, hv₁⟩, _⟩ := s₁.ceRefs _ _ (lookup_mem h₁)
  obtain ⟨⟨t₂, ht₂⟩, ⟨v₂, hv₂⟩, _⟩ := s₂.ceRefs _ _ (lookup_mem h₂)
  simp only [resolveCanonElement, h₁, h₂, ht₁, ht₂, hv₁, hv₂, lookup_bound hb.value s₁.value s₂.value hv₁ hv₂,
    lookup_bound hb.tetraplet s₁.tetraplet s₂.tetraplet ht₁ ht₂]

/-- content binding for canon results: the same canon-result CID stands for the same canon
tetraplet and the same list of elements (value, tetraplet, provenance) in any two verified stores -/
theorem C14_content_bound_canon (E : VerifyEnv) (hb : ContentBinding E) (ci₁ ci₂ : CidInfo)
    (h₁ : ci₁.verify E = .ok ()) (h₂ : ci₂.verify E = .ok ()) (cid : Cid)
    (r₁ r₂ : Tetraplet × List (Option (String × Tetraplet × Provenance)))
    (hr₁ : resolveCanon ci₁ cid = some r₁) (hr₂ : resolveCanon ci₂ cid = some r₂) : r₁ = r₂ := by
  have s₁ := verify_ok h₁
  have s₂ := verify_ok h₂
  obtain ⟨a₁, t₁, ha₁, ht₁, rfl⟩ := resolveCanon_eq_some.mp hr₁
  obtain ⟨a₂, t₂, ha₂, ht₂, rfl⟩ := resolveCanon_eq_some.mp hr₂
  obtain rfl := lookup_bound hb.canonResult s₁.canonResult s₂.canonResult ha₁ ha₂
  rw [lookup_bound hb.tetraplet s₁.tetraplet s₂.tetraplet ht₁ ht₂]
  refine congrArg _ (List.map_congr_left fun v hv => ?_)
  obtain ⟨x₁, hx₁⟩ := (s₁.crRefs _ _ (lookup_mem ha₁)).2 v hv
  obtain ⟨x₂, hx₂⟩ := (s₂.crRefs _ _ (lookup_mem ha₂)).2 v hv
  exact resolveCanonElement_bound E hb ci₁ ci₂ s₁ s₂ v x₁ x₂ hx₁ hx₂

/-- For EVERY context: if `handle_prev_state` accepts an `Executed(Scalar cid)` or
`Executed(Stream{cid, generation})` state (`resultCid value = some cid`) from merged data (returns `Ok`) then the stored tetraplet of `cid` equals the instruction's
resolved triplet `t` and the stored argument hash equals the hash `argHash` computed from the
instruction's resolved arguments. -/
theorem C14_use_site_bound (env : Env) (met : Trace.MetCallResult) (t : Tetraplet) (argHash : Option String) (out : Air.CallOutput)
    (c : Ctx) (value : ValueRef) (cid : Cid) (sd : StateDescriptor)
    (hm : met.result = .executed value) (hv : resultCid value = some cid)
    (h : (handlePrevState env met t argHash out c).1 = .ok sd) :
    ∃ v agg, resolveServiceInfo env c.cid cid = .ok (v, t, agg) ∧ argHash = some agg.argumentHash := by
  unfold handlePrevState at h
  rw [hm] at h
  obtain _ | ah := argHash
  · cases h
  · simp only [unwrapHash, bind, M.bind, pure, M.pure, modifyER] at h
    split at h <;> try cases h
    rename_i heq
    split at heq <;> cases heq
    obtain ⟨v, agg, hr, rfl⟩ := populateFromData_result hv ‹_›
    exact ⟨v, agg, hr, rfl⟩

/-- the same for a `Failed(cid)` state: it is turned into the (catchable) service error only after the
same parameter check -/
theorem C14_use_site_bound_failed (env : Env) (met : Trace.MetCallResult) (t : Tetraplet) (argHash : Option String) (out : Air.CallOutput)
    (c : Ctx) (cid : Cid) (e : CatchableErr)
    (hm : met.result = .failed cid)
    (h : (handlePrevState env met t argHash out c).1 = .error (.catchable e)) :
    ∃ v agg, resolveServiceInfo env c.cid cid = .ok (v, t, agg) ∧ argHash = some agg.argumentHash := by
  unfold handlePrevState at h
  rw [hm] at h
  simp only [bind, M.bind, readER] at h
  cases hr : resolveServiceInfo env c.cid cid with
  | error e' =>
    obtain ⟨u, rfl⟩ := resolveServiceInfo_error hr
    simp [hr] at h
  | panic s => simp [hr] at h
  | ok r =>
    obtain ⟨v, curT, agg⟩ := r
    simp only [hr] at h
    cases argHash with
    | none => simp [unwrapHash, panicM] at h
    | some ah =>
      simp only [unwrapHash, pure, M.pure] at h
      cases hv : verifyCall ah t agg.argumentHash curT with
      | error e' =>
        obtain ⟨p, x, y, rfl⟩ := verifyCall_error hv
        simp [hv] at h
      | panic s => simp [hv] at h
      | ok u =>
        obtain ⟨h1, h2⟩ := verifyCall_ok hv
        subst h2
        exact ⟨v, agg, rfl, by rw [h1]⟩

/-- at the level of the call instruction: the hash compared is the hash of the arguments the
instruction resolves in the *current* context -/
theorem C14_use_site_args (env : Env) (i : Air.Instr) (t : Tetraplet) (args : List Air.Value) (out : Air.CallOutput) (c : Ctx)
    (checked : Option (List Json.JVal)) (m : Trace.MetCallResult) (th' : Trace.TraceHandler) (cid : Cid)
    (hargs : checkArgs c args = .ok checked)
    (hmet : c.th.meetCallStart = .ok (.met m, th'))
    (hm : m.result = .executed (.scalar cid))
    (hres : (resolvedExecute env i t args out c).1 = .ok ()) :
    ∃ vs tss v agg, collectArgs c args = .ok (vs, tss) ∧ resolveServiceInfo env c.cid cid = .ok (v, t, agg) ∧
      agg.argumentHash = env.hash (argsJson vs) := by
  unfold resolvedExecute at hres
  simp only [bind, M.bind, readER, hargs, liftTH, stateER, traceToExec, hmet, Res.mapErr, Res.bind, prepareState] at hres
  split at hres <;> try cases hres
  rename_i sd c1 hh
  obtain ⟨v, agg, hr, ha⟩ := C14_use_site_bound _ _ _ _ _ _ _ _ sd hm rfl (congrArg Prod.fst hh)
  obtain _ | vs := checked
  · cases ha
  · obtain ⟨tss, hc⟩ := checkArgs_some hargs
    exact ⟨vs, tss, v, agg, hc, hr, (Option.some.inj ha).symm⟩

/-- relocation is rejected: a stored result whose argument hash or tetraplet differs from those of
the instruction it is offered to yields `InstructionParametersMismatch` (uncatchable) and leaves the
context untouched -/
theorem C14_relocation_rejected (env : Env) (met : Trace.MetCallResult) (t curT : Tetraplet) (ah name : String)
    (c : Ctx) (cid : Cid) (v : Json.JVal) (agg : ServiceResultAgg)
    (hm : met.result = .executed (.scalar cid))
    (hr : resolveServiceInfo env c.cid cid = .ok (v, curT, agg))
    (hne : ah ≠ agg.argumentHash ∨ t ≠ curT) :
    ∃ p x y, handlePrevState env met t (some ah) (.scalar name) c =
      (.error (.uncatchable (.instructionParametersMismatch p x y)), c) := by
  obtain ⟨p, x, y, hv⟩ := verifyCall_mismatch hne
  refine ⟨p, x, y, ?_⟩
  unfold handlePrevState
  rw [hm]
  simp only [unwrapHash, bind, M.bind, pure, M.pure, modifyER, populateFromData, hr, Res.bind, hv]

theorem C14_relocation_rejected_failed (env : Env) (met : Trace.MetCallResult) (t curT : Tetraplet) (ah : String) (out : Air.CallOutput)
    (c : Ctx) (cid : Cid) (v : Json.JVal) (agg : ServiceResultAgg)
    (hm : met.result = .failed cid)
    (hr : resolveServiceInfo env c.cid cid = .ok (v, curT, agg))
    (hne : ah ≠ agg.argumentHash ∨ t ≠ curT) :
    ∃ p x y, handlePrevState env met t (some ah) out c =
      (.error (.uncatchable (.instructionParametersMismatch p x y)), c) := by
  obtain ⟨p, x, y, hv⟩ := verifyCall_mismatch hne
  refine ⟨p, x, y, ?_⟩
  unfold handlePrevState
  rw [hm]
  simp only [unwrapHash, bind, M.bind, pure, M.pure, readER, hr, hv]

/-- canon results: `handle_canon_executed` accepts a canon result from merged data only if the
tetraplet stored for it is exactly (the peer the canon instruction resolves, "", "", "") — a canon
result of another peer, or one with a service/function/lens smuggled into its tetraplet, is not taken -/
theorem C14_use_site_bound_canon (env : Env) (canonName : CanonTarget) (peer : Air.Value) (cid : Cid) (c : Ctx)
    (h : (canonExecuted env canonName peer cid c).1 = .ok ()) :
    ∃ peerId agg, resolveToString c peer = .ok peerId ∧ lookup c.cid.canonResults cid = some agg ∧
      getTetrapletByCid c.cid agg.tetraplet = .ok ({ peerPk := peerId } : Tetraplet) := by
  simp only [canonExecuted, bind, M.bind, readER] at h
  split at h
  · exact canonRead_ok (Prod.mk.inj ‹_›).1
  · cases h
  · cases h

theorem C14_canon_relocation_rejected (env : Env) (canonName : CanonTarget) (peer : Air.Value) (cid : Cid) (c : Ctx)
    (peerId : String) (agg : CanonResultAgg) (t : Tetraplet)
    (hp : resolveToString c peer = .ok peerId) (hl : lookup c.cid.canonResults cid = some agg)
    (ht : getTetrapletByCid c.cid agg.tetraplet = .ok t) (hne : ({ peerPk := peerId } : Tetraplet) ≠ t) :
    ∃ x y, canonExecuted env canonName peer cid c =
      (.error (.uncatchable (.instructionParametersMismatch "canon tetraplet" x y)), c) := by
  refine ⟨({ peerPk := peerId } : Tetraplet).debug, t.debug, ?_⟩
  unfold canonExecuted canonRead
  simp only [bind, M.bind, readER, hp, Res.bind, hl, ht, verifyCanon, bne_iff_ne, ne_eq, hne, not_false_eq_true, if_true, uncatchable]

/-- the signed bytes are an injective function of (CID list, particle id): the encoding is unambiguous -/
theorem C14_signed_message_unambiguous (cids cids' : List String) (p p' : String) (m : Bytes)
    (h : saltedData cids p = some m) (h' : saltedData cids' p' = some m) : cids = cids' ∧ p = p' :=
  saltedData_inj h h'

theorem verify_sign_salted (S : SigScheme) (hfree : S.Free) {sk : S.SecretKey} {pk : S.PublicKey}
    {cids cids' : List String} {p p' : String} {m m' : Bytes}
    (hm : saltedData cids p = some m) (hm' : saltedData cids' p' = some m')
    (hv : S.verify pk m (S.sign sk m') = true) : cids' = cids ∧ p' = p := by
  obtain ⟨_, _, hs⟩ := (S.verify_iff pk m _).mp hv
  obtain rfl := (hfree _ _ _ _ hs).2
  exact saltedData_inj hm' hm

/-- A signature made (by anybody) over a CID list salted with particle
`p'` does not verify for particle `p ≠ p'`, whatever CID list is claimed for it -/
theorem C14_other_particle_rejected (S : SigScheme) (hfree : S.Free) (sk : S.SecretKey) (pk : S.PublicKey)
    (cids cids' : List String) (p p' : String) (m m' : Bytes)
    (hm : saltedData cids p = some m) (hm' : saltedData cids' p' = some m') (hne : p' ≠ p) :
    S.verify pk m (S.sign sk m') = false :=
  Bool.eq_false_iff.mpr fun hv => hne (verify_sign_salted S hfree hm hm' hv).2

/-- likewise a signature over a different CID list (one CID added, dropped, duplicated or rewritten;
the lists are compared after sorting) does not verify -/
theorem C14_other_cids_rejected (S : SigScheme) (hfree : S.Free) (sk : S.SecretKey) (pk : S.PublicKey)
    (cids cids' : List String) (p p' : String) (m m' : Bytes)
    (hm : saltedData cids p = some m) (hm' : saltedData cids' p' = some m') (hne : cids' ≠ cids) :
    S.verify pk m (S.sign sk m') = false :=
  Bool.eq_false_iff.mpr fun hv => hne (verify_sign_salted S hfree hm hm' hv).1

/-- the signatures honest peers have ever produced: `Produced sk cids particle` is the ground truth
"the owner of `sk` signed the sorted CID list `cids` of its own results for `particle`"
(`PeerCidTracker::gen_signature`) -/
def HonestSigs (S : SigScheme) (Produced : S.SecretKey → List Cid → String → Prop) (s : S.Sig) : Prop :=
  ∃ sk cids particle m, Produced sk cids particle ∧ saltedData cids particle = some m ∧ s = S.sign sk m

/-- what an attacker who owns the secret keys `own` and has seen the signatures `seen` can put into
a signature store: replayed signatures, signatures under its own keys, arbitrary non-signatures -/
inductive Derivable (S : SigScheme) (own : S.SecretKey → Prop) (seen : S.Sig → Prop) : S.Sig → Prop
  | replay {s : S.Sig} : seen s → Derivable S own seen s
  | sign {sk : S.SecretKey} {m : Bytes} : own sk → Derivable S own seen (S.sign sk m)
  | junk {s : S.Sig} : (∀ sk m, s ≠ S.sign sk m) → Derivable S own seen s

/-- No forgery (signature side, whole data; use site per call instruction: see
`C14_use_site_bound`, `C14_use_site_args`, `C14_relocation_rejected`).
`cur` is arbitrary data whose signatures the attacker derived from what it has seen and its own
keys.  If the verification step accepts it for `particle`, then every trace state attributed to a
peer `Q` whose key the attacker does not own carries a CID that `Q` itself signed, as a member of
exactly the list of CIDs attributed to `Q` in `cur`, for this very particle. -/
theorem C14_no_forgery_partial (S : SigScheme) (hfree : S.Free) (validate : S.PublicKey → Bool)
    (toPeerId keyText : S.PublicKey → String) (sigText : S.Sig → String)
    (cidCheck : Cid → Bytes → Except CidVerificationError Unit)
    (hpid : ∀ a b, validate a = true → validate b = true → toPeerId a = toPeerId b → a = b)
    (own : S.SecretKey → Prop) (Produced : S.SecretKey → List Cid → String → Prop)
    (cur : VData (VerifyEnv.ofScheme S validate toPeerId keyText sigText cidCheck)) (particle : String)
    (hder : ∀ p ∈ cur.signatures, Derivable S own (HonestSigs S Produced) p.2)
    (hok : verifyData _ cur particle = .ok ())
    (pkQ : S.PublicKey) (hvalid : validate pkQ = true) (hQ : ∀ sk, own sk → S.pub sk ≠ pkQ)
    (st : ExecutedState) (hst : st ∈ cur.trace) (cid : Cid)
    (hattr : stateContribution cur.cidInfo st = .ok (some (toPeerId pkQ, cid))) :
    ∃ sk, S.pub sk = pkQ ∧ Produced sk (sortCids (peerCids cur.cidInfo cur.trace (toPeerId pkQ))) particle ∧
      cid ∈ sortCids (peerCids cur.cidInfo cur.trace (toPeerId pkQ)) := by
  obtain ⟨hcid, pk, sig, m, hmem, hv, hpidq, hm, hver⟩ :=
    C14_verified_cids_signed _ cur particle hok st hst _ cid hattr
  have hpk : pk = pkQ := hpid pk pkQ hv hvalid hpidq
  subst hpk
  obtain ⟨sk, hpub, hsig⟩ := (S.verify_iff pk m sig).mp hver
  have hd := hder (pk, sig) hmem
  simp only at hd
  cases hd with
  | replay hseen =>
    obtain ⟨sk', cids', particle', m', hprod, hm', hs⟩ := hseen
    rw [hsig] at hs
    obtain ⟨hpubeq, hmm⟩ := hfree _ _ _ _ hs
    subst hmm
    obtain ⟨hc, hp⟩ := saltedData_inj hm' hm
    subst hc; subst hp
    exact ⟨sk', by rw [← hpubeq, ← hpub], hprod, hcid⟩
  | @sign sk' m' hown =>
    exact absurd (by
      have := hfree sk' sk m' m hsig
      rw [this.1, ← hpub]) (hQ sk' hown)
  | junk hj => exact absurd hsig (hj sk m)

/-- the call results (CIDs of executed-scalar / stream / failed call states) of a trace -/
def callCids (trace : Trace) : List Cid := trace.filterMap fun st =>
  match st with
  | .call c => c.getCid
  | _ => none

/-- Full statement (not proved as one theorem): for a whole run of the executor model on verified
current data, every call result in the *output* trace that the merged stores attribute to a peer
other than the current one is a result of the previous data or one of the CIDs attributed to that
peer in the current data (hence, by `C14_no_forgery_partial`, signed by it for this particle), and it
was accepted by a call instruction whose resolved triplet and argument hash equal the stored ones.

Missing for the full statement: (a) an invariant through `exec` (all instructions, fuel induction)
that call and canon states reach the result trace only through `handle_prev_state` /
`handle_canon_executed` or as this peer's own new results — `C14_use_site_bound(_failed/_canon)` give
the per-instruction step for every context (scalar, stream, failed, canon), the induction over the
script (an `exec_rel` instance whose relation mentions the trace handler's result trace) is not done;
(b) canon results in the output are not mentioned in the statement below (the analogous clause with
`canonCids` is omitted).  The executor and the verification step read the same decoded trace and stores
(`curV.trace = cur.trace`, `curV.cidInfo = cur.cid`: one store type, `CidInfo = CidState`).
NOT claimed at all, because the code does not provide it (see the known findings of C14): the
Executed/Failed *kind* of a call state and the elements of a canon result are not authenticated. -/
def C14_full : Prop :=
  ∀ (E : VerifyEnv) (curV : VData E) (particle : String) (env : Env) (fuel : Nat) (script : Air.Instr)
    (prev cur : DataIn) (p : RunParams) (results : List (String × CallServiceResult)),
    curV.trace = cur.trace → curV.cidInfo = cur.cid →
    verifyData E curV particle = .ok () →
    (match (runExec env fuel script prev cur p results).1 with
     | .ok _ => True | .error (.catchable _) => True | _ => False) →
    ∀ cid ∈ callCids (runExec env fuel script prev cur p results).2.th.keeper.resultTrace,
      ∀ v t agg, resolveServiceInfo env (runExec env fuel script prev cur p results).2.cid cid = .ok (v, t, agg) →
        t.peerPk ≠ p.currentPeerId →
        cid ∈ callCids prev.trace ∨ cid ∈ peerCids curV.cidInfo curV.trace t.peerPk

/-! ## Non-vacuity: concrete inputs meeting the hypotheses
(toy instance and its facts: `AquaProps/Lemmas/C14Toy.lean`) -/
section Examples

-- hypotheses of `C14_verified_cids_signed` and `C14_no_forgery_partial` are met by the honest data …
example : verifyData toyEnv curQ "p1" = .ok () := toy_honest_verified
example : stateContribution curQ.cidInfo (.call (.executed (.scalar cidQ))) = .ok (some ("peer-Q", cidQ)) := toy_attributed
-- … and the tampered variants are rejected by the model: value swap, replay from another particle, foreign signer
example : (verifyData toyEnv curSwapped "p1").isOk = false := toy_swapped_rejected
example : (verifyData toyEnv curReplayed "p1").isOk = false := toy_replayed_rejected
example : (verifyData toyEnv curQ "p2").isOk = false := toy_other_particle_rejected
example : (verifyData toyEnv curForged "p1").isOk = false := toy_forged_rejected
-- `C14_content_bound`: two verified stores resolving the same CID
example : ciQ.verify toyEnv = .ok () := toy_store_verified
example : resolveResult ciQ cidQ = some ("1", tetQ, "h") :=
  resolveResult_eq_some.mpr ⟨aggQ, _, _, lookup_cons_self .., lookup_cons_self .., lookup_cons_self .., rfl⟩
-- `C14_other_particle_rejected`: messages for two particles exist and differ
example : (saltedData [cidQ] "p1").isSome = true ∧ (saltedData [cidQ] "p0").isSome = true := toy_messages
example : symbolic.Free := symbolic_free
-- `C14_relocation_rejected`: `verifyCall` accepts equal parameters and rejects a relocated result
example : (verifyCall "h" tetQ "h" tetQ).isOk = true := by decide +kernel
example : (verifyCall "h" { tetQ with peerPk := "peer-R" } "h" tetQ).isOk = false := by decide +kernel

end Examples


/-! The repaired verification step (commits b547c87, 7eb402e in /repo). -/

/-- A trace state naming a CID that no store holds is an error, never a crash: the attribution of a
trace state to its signer returns a value or `CidNotFound` (before the repair these four lookups were
`expect("cannot happen in a checked CID store")`). -/
theorem C14_attribution_never_panics (ci : CidInfo) (st : ExecutedState) (site : String) :
    stateContribution ci st ≠ .panic site := by
  unfold stateContribution
  repeat' split
  all_goals nofun

/-- Every value of an accepted store is JSON: the lazy `RawValue::get_value` (whose parse failure used
to be a panic at first use) can no longer be reached with a text that does not parse. -/
theorem C14_verified_values_are_json (E : VerifyEnv) (ci : CidInfo) (h : ci.verify E = .ok ()) :
    ∀ cid v, (cid, v) ∈ ci.values → E.isJson v = true :=
  (verify_ok h).valueJson

/-- a store with a non-JSON value is refused with `MalformedValue` naming the entry (first failing entry wins) -/
theorem C14_non_json_value_rejected (E : VerifyEnv) (cid : Cid) (v : String) (rest : List (Cid × String))
    (hc : E.cidCheck cid (strBytes v) = .ok ()) (hj : E.isJson v = false) :
    verifyValueStore E ((cid, v) :: rest) = .error (.malformedValue cid) := by
  simp [verifyValueStore, allOk, hc, hj]

end AquaProps.C14
