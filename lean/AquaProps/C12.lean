import Aqua.Exec.Streams
/-!
# C12 — a peer never reorders the stream values it has already seen

Theorems about the Lean replica of `Stream::compactify` (stream_definition.rs), which decides the
generation numbers written into the produced data, for EVERY stream content.

History level (consecutive run pairs of one peer): the previous data's generation numbers are what the
next run reads back as `previous(g)`; since they were written sorted and dense and are re-written by the
same monotone renumbering, relative order is kept.  That composition is checked by the oracle on
consecutive data of every peer in generated histories, not proved (it needs the replay alignment, C09).
-/
namespace AquaProps.C12
open Aqua Aqua.Exec Aqua.Json Aqua.Data Aqua.Trace AquaProps

/-- the generations compaction assigns: the `i`-th slice gets `start + i` (trace position, generation) -/
def planSlices : List (List ValueAggregate) → Nat → List (Nat × Nat)
  | [], _ => []
  | vs :: rest, g => vs.map (fun v => (v.tracePos, g)) ++ planSlices rest (g + 1)

def nonEmpty (m : ValuesMatrix) : List (List ValueAggregate) := m.values.filter (fun g => !g.isEmpty)

/-- all `(trace position, new generation)` pairs compaction writes, in the order it writes them -/
def compactPlan (s : Stream) : List (Nat × Nat) :=
  planSlices (nonEmpty s.prev) 0 ++ planSlices (nonEmpty s.cur) (nonEmpty s.prev).length ++
    planSlices (nonEmpty s.new) ((nonEmpty s.prev).length + (nonEmpty s.cur).length)

/-- writing a list of generations into the trace, stopping at the first failure -/
def applyPlan : List (Nat × Nat) → TraceHandler → ER TraceHandler
  | [], th => .ok th
  | (pos, g) :: rest, th =>
    match th.updateGeneration pos g with
    | .ok th' => applyPlan rest th'
    | .error _ => uncatchable .generationCompactificationError
    | .panic s => .panic s

theorem applyPlan_append (a b : List (Nat × Nat)) (th : TraceHandler) :
    applyPlan (a ++ b) th = (applyPlan a th).bind (applyPlan b) := by
  induction a generalizing th with
  | nil => rfl
  | cons x xs ih =>
    obtain ⟨pos, g⟩ := x
    simp only [List.cons_append, applyPlan]
    cases th.updateGeneration pos g with
    | ok th' => exact ih th'
    | error e => rfl
    | panic s => rfl

theorem inner_eq (g : Nat) (vs : List ValueAggregate) (th : TraceHandler) :
    Stream.updateGenerations.go.inner g vs th = applyPlan (vs.map fun v => (v.tracePos, g)) th := by
  induction vs generalizing th with
  | nil => unfold Stream.updateGenerations.go.inner; rfl
  | cons v more ih =>
    unfold Stream.updateGenerations.go.inner
    simp only [List.map_cons, applyPlan]
    cases th.updateGeneration v.tracePos g with
    | ok th' => exact ih th'
    | error e => rfl
    | panic s => rfl

theorem updateGenerations_eq (slices : List (List ValueAggregate)) (start : Nat) (th : TraceHandler) :
    Stream.updateGenerations slices start th = applyPlan (planSlices slices start) th := by
  unfold Stream.updateGenerations
  induction slices generalizing start th with
  | nil => unfold Stream.updateGenerations.go; rfl
  | cons vs rest ih =>
    unfold Stream.updateGenerations.go
    simp only [planSlices, applyPlan_append, inner_eq]
    cases applyPlan (vs.map fun v => (v.tracePos, start)) th with
    | ok th' => exact ih (start + 1) th'
    | error e => rfl
    | panic s => rfl

/-- Compaction writes exactly the plan. -/
theorem C12_compactify_applies_plan (s : Stream) (th : TraceHandler) :
    (s.compactify th).bind (fun r => .ok r.2) = applyPlan (compactPlan s) th := by
  unfold Stream.compactify compactPlan
  simp only [bind, updateGenerations_eq, ValuesMatrix.sliceIter, ValuesMatrix.removeEmptyGenerations,
    ValuesMatrix.generationsCount, List.drop_zero, List.filter_filter, Bool.and_self, applyPlan_append, nonEmpty]
  cases applyPlan (planSlices (s.prev.values.filter fun g => !g.isEmpty) 0) th with
  | ok t1 =>
    simp only [Res.bind]
    cases applyPlan (planSlices (s.cur.values.filter fun g => !g.isEmpty) (s.prev.values.filter fun g => !g.isEmpty).length) t1 with
    | ok t2 =>
      simp only
      cases applyPlan (planSlices (s.new.values.filter fun g => !g.isEmpty)
          ((s.prev.values.filter fun g => !g.isEmpty).length + (s.cur.values.filter fun g => !g.isEmpty).length)) t2 <;> rfl
    | _ => rfl
  | _ => rfl

theorem planSlices_positions (slices : List (List ValueAggregate)) (g : Nat) :
    (planSlices slices g).map (·.1) = slices.flatten.map (·.tracePos) := by
  induction slices generalizing g with
  | nil => rfl
  | cons vs rest ih => simp [planSlices, ih, List.map_map, Function.comp_def]

theorem filter_nonempty_flatten (l : List (List ValueAggregate)) : (l.filter (fun g => !g.isEmpty)).flatten = l.flatten := by
  induction l with
  | nil => rfl
  | cons x xs ih =>
    cases x with
    | nil => simpa using ih
    | cons a as => simp [ih]

/-- The plan visits the values in the stream's iteration order (`Stream::iter`: previous, current, new). -/
theorem C12_plan_follows_iteration_order (s : Stream) : (compactPlan s).map (·.1) = s.all.map (·.tracePos) := by
  unfold compactPlan Stream.all ValuesMatrix.all nonEmpty
  simp [planSlices_positions, filter_nonempty_flatten]

theorem planSlices_bounds (slices : List (List ValueAggregate)) (g : Nat) :
    ∀ x ∈ planSlices slices g, g ≤ x.2 ∧ x.2 < g + slices.length := by
  induction slices generalizing g with
  | nil => intro x hx; cases hx
  | cons vs rest ih =>
    intro x hx
    simp only [planSlices, List.mem_append, List.mem_map] at hx
    rcases hx with ⟨v, _, rfl⟩ | hx
    · simp
    · have := ih (g + 1) x hx
      simp only [List.length_cons]; omega

theorem planSlices_sorted (slices : List (List ValueAggregate)) (g : Nat) :
    ((planSlices slices g).map (·.2)).Pairwise (· ≤ ·) := by
  induction slices generalizing g with
  | nil => exact .nil
  | cons vs rest ih =>
    simp only [planSlices, List.map_append, List.map_map, List.pairwise_append]
    refine ⟨List.pairwise_map.mpr (List.pairwise_of_forall fun _ _ => Nat.le_refl g), ih (g + 1), ?_⟩
    intro a ha b hb
    obtain ⟨v, _, rfl⟩ := List.mem_map.mp ha
    obtain ⟨x, hx, rfl⟩ := List.mem_map.mp hb
    exact Nat.le_trans (Nat.le_succ g) (planSlices_bounds rest (g + 1) x hx).1

theorem planSlices_append (a b : List (List ValueAggregate)) (g : Nat) :
    planSlices (a ++ b) g = planSlices a g ++ planSlices b (g + a.length) := by
  induction a generalizing g with
  | nil => rfl
  | cons vs rest ih => simp [planSlices, ih, Nat.add_assoc, Nat.add_comm 1]

theorem compactPlan_eq (s : Stream) :
    compactPlan s = planSlices (nonEmpty s.prev ++ nonEmpty s.cur ++ nonEmpty s.new) 0 := by
  simp [compactPlan, planSlices_append]

/-- Generations never decrease along the iteration order: compaction never swaps two values. -/
theorem C12_plan_generations_sorted (s : Stream) : ((compactPlan s).map (·.2)).Pairwise (· ≤ ·) := by
  rw [compactPlan_eq]; exact planSlices_sorted _ _

/-- Previous before current before new: strict separation of the three sources. -/
theorem C12_sources_ordered (s : Stream) :
    (∀ x ∈ planSlices (nonEmpty s.prev) 0, ∀ y ∈ planSlices (nonEmpty s.cur) (nonEmpty s.prev).length, x.2 < y.2) ∧
    (∀ y ∈ planSlices (nonEmpty s.cur) (nonEmpty s.prev).length,
      ∀ z ∈ planSlices (nonEmpty s.new) ((nonEmpty s.prev).length + (nonEmpty s.cur).length), y.2 < z.2) := by
  constructor
  · intro x hx y hy
    have h1 := (planSlices_bounds _ _ x hx).2
    have h2 := (planSlices_bounds _ _ y hy).1
    omega
  · intro y hy z hz
    have h1 := (planSlices_bounds _ _ y hy).2
    have h2 := (planSlices_bounds _ _ z hz).1
    omega

theorem planSlices_covers (slices : List (List ValueAggregate)) (g : Nat) (hne : ∀ vs ∈ slices, vs ≠ []) :
    ∀ k, g ≤ k → k < g + slices.length → k ∈ (planSlices slices g).map (·.2) := by
  induction slices generalizing g with
  | nil => intro k h1 h2; simp at h2; omega
  | cons vs rest ih =>
    intro k h1 h2
    simp only [planSlices, List.map_append, List.mem_append, List.map_map]
    by_cases hk : k = g
    · left
      subst hk
      cases vs with
      | nil => exact absurd rfl (hne [] List.mem_cons_self)
      | cons v more => simp
    · right
      exact ih (g + 1) (fun vs h => hne vs (List.mem_cons_of_mem _ h)) k (by omega) (by simp only [List.length_cons] at h2; omega)

theorem nonEmpty_ne (m : ValuesMatrix) : ∀ vs ∈ nonEmpty m, vs ≠ [] := by
  intro vs h
  unfold nonEmpty at h
  have := (List.mem_filter.mp h).2
  intro he; subst he; simp at this

/-- Dense renumbering: the generation numbers written are exactly `0, …, n-1` where `n` is the number
of non-empty generations of the three sources; in particular the placeholder `0xCAFEBABE` is never
written for a stream with fewer values than that. -/
theorem C12_plan_dense (s : Stream) :
    let n := (nonEmpty s.prev).length + (nonEmpty s.cur).length + (nonEmpty s.new).length
    (∀ x ∈ compactPlan s, x.2 < n) ∧ (∀ k < n, k ∈ (compactPlan s).map (·.2)) := by
  intro n
  have hn : n = 0 + (nonEmpty s.prev ++ nonEmpty s.cur ++ nonEmpty s.new).length := by
    simp only [List.length_append, Nat.zero_add]; rfl
  have hne : ∀ vs ∈ nonEmpty s.prev ++ nonEmpty s.cur ++ nonEmpty s.new, vs ≠ [] := by
    simp only [List.mem_append]
    rintro vs ((h | h) | h) <;> exact nonEmpty_ne _ vs h
  rw [compactPlan_eq, hn]
  exact ⟨fun x hx => (planSlices_bounds _ _ x hx).2, fun k hk => planSlices_covers _ 0 hne k (Nat.zero_le k) hk⟩

section Examples
def va (n : Int) (pos : Nat) : ValueAggregate := ⟨.num n, { peerPk := "p" }, pos, .literal⟩
/-- previous generations 0 (one value), 2 (two values; generation 1 is empty), one current, one new value -/
def s0 : Stream := { prev := { values := [[va 1 10], [], [va 2 11, va 3 12]], size := 3 },
                     cur := { values := [[va 4 13]], size := 1 }, new := { values := [[va 5 14]], size := 1 } }
example : compactPlan s0 = [(10, 0), (11, 1), (12, 1), (13, 2), (14, 3)] := by decide
end Examples

end AquaProps.C12
