import AquaProps.Lemmas.MergeLattice
/-!
# C07 — re-delivering already merged data changes nothing

Proved (all states): the per-state merges are idempotent and absorbing — merging the merged state `m`
again with either input gives `m` back (content-wise).  The run-level statement `f(c,b) = f(c,a) =
f(c,c) = f(c,∅) = c` (`C07_full`) is checked after every step of every simulated history by the direct
oracle; it is not proved (`_partial`).
-/
namespace AquaProps.C07
open Aqua Aqua.Data Aqua.Trace AquaProps.Merge

def C07_full (trace : α → List ExecutedState) (run : α → Option α → Option α) : Prop :=
  ∀ a b c, run a (some b) = some c →
    ∀ x ∈ [some b, some a, some c, none], ∃ c', run c x = some c' ∧ trace c' = trace c

theorem C07_call_merge_idempotent_partial (x : CallResult) : ∃ s, mergeCallResults x x = .ok (x, s) := mergeCall_idem x

theorem C07_canon_merge_idempotent_partial (x : CanonResult) : mergeCanonResults x x = .ok x := mergeCanon_idem x

/-- absorbing: once `m = merge p c`, merging `m` (as previous) with `c` or with `p` again keeps `m`'s content,
and the merged state is `m` itself (previous wins) -/
theorem C07_call_merge_absorbs_partial (p c m : CallResult) (s : PreparationScheme) (h : mergeCallResults p c = .ok (m, s)) :
    (∃ s', mergeCallResults m c = .ok (m, s') ∨ ∃ m', mergeCallResults m c = .ok (m', s') ∧ contentOf m' = contentOf m) ∧
    (∃ s', mergeCallResults m p = .ok (m, s') ∨ ∃ m', mergeCallResults m p = .ok (m', s') ∧ contentOf m' = contentOf m) := by
  have hu := mergeCall_upper p c m s h
  -- what `m` already knows is absorbed: the new merge is an upper bound taken from `m`, `x`, both below `m`
  have absorb : ∀ x : CallResult, (contentOf x).le (contentOf m) →
      ∃ s', mergeCallResults m x = .ok (m, s') ∨ ∃ m', mergeCallResults m x = .ok (m', s') ∧ contentOf m' = contentOf m := by
    intro x hx
    obtain ⟨m', s', hm'⟩ := mergeCall_ok_of_compatible m x fun ⟨_, hr, hne⟩ => hne (hx.resolve_left hr).symm
    obtain ⟨hm, _, hmm⟩ := mergeCall_upper m x m' s' hm'
    refine ⟨s', .inr ⟨m', hm', Content.le_antisymm ?_ hm⟩⟩
    rcases hmm with rfl | rfl
    · exact Content.le_refl _
    · exact hx
  exact ⟨absorb c hu.2.1, absorb p hu.1⟩

end AquaProps.C07
