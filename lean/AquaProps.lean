import AquaProps.C01
import AquaProps.C02
import AquaProps.C03
import AquaProps.C04
import AquaProps.C05
import AquaProps.C06
import AquaProps.C07
import AquaProps.C08
import AquaProps.C09
import AquaProps.C10
import AquaProps.C11
import AquaProps.C12
import AquaProps.C13
import AquaProps.C14
import AquaProps.C15
import AquaProps.C16
import AquaProps.C17
import AquaProps.C18
import AquaProps.C19
import AquaProps.C20
import AquaProps.C21
import AquaProps.C22
import AquaProps.C23
import AquaProps.C24
import AquaProps.C25
import AquaProps.C26
import AquaProps.C27
import AquaProps.C28
import AquaProps.C01Net
import AquaProps.C03Net
import AquaProps.C05Net
import AquaProps.C06Net
import AquaProps.C17Net
import AquaProps.C19Net
import AquaProps.C20Net
