import Aqua.Air.Ast
/-
AIR syntax tree *with instruction spans* (`Span { left, right }` of `air-parser/src/parser/span.rs`),
as the grammar actions of `air.lalrpop` see it: every action computes `Span::new(left, right)` from
`@L`/`@R` of the instruction's parentheses and hands it to the `VariableValidator`.  The operand
types are those of `Aqua.Air.Ast` (`Value`, `CallOutput`, `FailArg`, `NewArg`); `SInstr.erase` drops
the spans and yields the `Instr` the executor model runs (there is no `Instr` for `Instruction::Error`).

`events` is the order in which the grammar actions fire: LALRPOP reduces bottom-up, a production is
reduced when its last symbol `")"` has been shifted, hence children before parents, left to right.
-/
namespace Aqua.Air

/-- `parser::Span` (positions are byte offsets, `AirPos`) -/
structure Span where
  left : Nat
  right : Nat
deriving Repr, DecidableEq, Inhabited

namespace Span

/-- `Span::contains_position` -/
def containsPosition (s : Span) (position : Nat) : Bool := s.left < position && position < s.right

/-- `Span::contains_span` -/
def containsSpan (s span : Span) : Bool := s.containsPosition span.left && s.containsPosition span.right

def minPos (s : Span) : Nat := min s.left s.right

/-- `impl Ord for Span`: `Less` if the smaller end is smaller, `Equal` only for identical spans,
`Greater` otherwise (so two different spans with the same start are `Greater` both ways) -/
def cmp (a b : Span) : Ordering :=
  if a.minPos < b.minPos then .lt else if a = b then .eq else .gt

/-- `a < b` -/
def lt (a b : Span) : Bool := a.minPos < b.minPos
/-- `a > b` -/
def gt (a b : Span) : Bool := !(a.minPos < b.minPos) && a != b

theorem lt_iff_cmp (a b : Span) : a.lt b = (a.cmp b == .lt) := by
  unfold lt cmp; by_cases h : a.minPos < b.minPos <;> simp [h] <;> split <;> simp
theorem gt_iff_cmp (a b : Span) : a.gt b = (a.cmp b == .gt) := by
  unfold gt cmp; by_cases h : a.minPos < b.minPos <;> simp [h]
  by_cases h2 : a = b <;> simp [h2]

end Span

/-- `ApResult` -/
inductive ApResult where
  | scalar (name : String)
  | stream (name : String) (position : Nat)
deriving Repr, DecidableEq, Inhabited

def ApResult.name : ApResult → String
  | .scalar n | .stream n _ => n

def ApResult.toCallOutput : ApResult → CallOutput
  | .scalar n => .scalar n
  | .stream n p => .stream n p

/-- the iterable of the three `fold` productions -/
inductive FoldIterable where
  /-- `FoldScalarIterable`: scalar, scalar with lens, canon stream, canon map, canon map with lens, `[]` -/
  | scalar (v : Value)
  | stream (name : String) (position : Nat)
  | streamMap (name : String) (position : Nat)
deriving Repr, DecidableEq, Inhabited

inductive SInstr where
  | call (sp : Span) (peer svc func : Value) (args : List Value) (out : CallOutput)
  | seq (sp : Span) (l r : SInstr)
  | par (sp : Span) (l r : SInstr)
  | xor (sp : Span) (l r : SInstr)
  | match_ (sp : Span) (a b : Value) (i : SInstr)
  | mismatch (sp : Span) (a b : Value) (i : SInstr)
  | ap (sp : Span) (arg : Value) (result : ApResult)
  | apMap (sp : Span) (key val : Value) (map : String) (position : Nat)
  | canon (sp : Span) (peer : Value) (stream : String) (streamPos : Nat) (canonStream : String)
  | canonMap (sp : Span) (peer : Value) (map : String) (mapPos : Nat) (canonMap : String)
  | canonMapScalar (sp : Span) (peer : Value) (map : String) (mapPos : Nat) (scalar : String)
  /-- `fold … instruction)` without a last instruction -/
  | fold (sp : Span) (iterable : FoldIterable) (iterator : String) (body : SInstr)
  /-- `fold … instruction last_instruction)` -/
  | foldLast (sp : Span) (iterable : FoldIterable) (iterator : String) (body last : SInstr)
  | next (sp : Span) (iterator : String)
  | new (sp : Span) (arg : NewArg) (body : SInstr)
  | fail (sp : Span) (arg : FailArg)
  | null (sp : Span)
  | never (sp : Span)
  /-- `Instruction::Error`, built only by the recovery action `! => { errors.push(<>); Instruction::Error }` -/
  | error
deriving Repr, Inhabited, DecidableEq

/-- what a grammar action hands to the validator: the head of the reduced instruction -/
inductive Event where
  | call (sp : Span) (peer svc func : Value) (args : List Value) (out : CallOutput)
  | seq (sp : Span)
  | par (sp : Span)
  | xor (sp : Span)
  | match_ (sp : Span) (a b : Value)
  | mismatch (sp : Span) (a b : Value)
  | ap (sp : Span) (arg : Value) (result : ApResult)
  | apMap (sp : Span) (key val : Value) (map : String)
  | canon (sp : Span) (peer : Value) (stream : String) (canonStream : String)
  | canonMap (sp : Span) (peer : Value) (map : String) (canonMap : String)
  | canonMapScalar (sp : Span) (peer : Value) (map : String) (scalar : String)
  | fold (sp : Span) (iterable : FoldIterable) (iterator : String) (hasLast : Bool)
  | next (sp : Span) (iterator : String)
  | new (sp : Span) (arg : NewArg)
  | fail (sp : Span) (arg : FailArg)
  | null (sp : Span)
  | never (sp : Span)
  /-- the recovery action: pushes a parse error, does not call the validator -/
  | error
deriving Repr, Inhabited, DecidableEq

/-- reduction order of the grammar actions (post-order, left to right) -/
def SInstr.events : SInstr → List Event
  | .call sp p s f a o => [.call sp p s f a o]
  | .seq sp l r => l.events ++ r.events ++ [.seq sp]
  | .par sp l r => l.events ++ r.events ++ [.par sp]
  | .xor sp l r => l.events ++ r.events ++ [.xor sp]
  | .match_ sp a b i => i.events ++ [.match_ sp a b]
  | .mismatch sp a b i => i.events ++ [.mismatch sp a b]
  | .ap sp a r => [.ap sp a r]
  | .apMap sp k v m _ => [.apMap sp k v m]
  | .canon sp p s _ c => [.canon sp p s c]
  | .canonMap sp p m _ c => [.canonMap sp p m c]
  | .canonMapScalar sp p m _ s => [.canonMapScalar sp p m s]
  | .fold sp it i b => b.events ++ [.fold sp it i false]
  | .foldLast sp it i b l => b.events ++ l.events ++ [.fold sp it i true]
  | .next sp i => [.next sp i]
  | .new sp a b => b.events ++ [.new sp a]
  | .fail sp a => [.fail sp a]
  | .null sp => [.null sp]
  | .never sp => [.never sp]
  | .error => [.error]

/-- no `Instruction::Error` node anywhere in the tree -/
def SInstr.noErrorNode : SInstr → Bool
  | .seq _ l r | .par _ l r | .xor _ l r => l.noErrorNode && r.noErrorNode
  | .match_ _ _ _ i | .mismatch _ _ _ i | .new _ _ i | .fold _ _ _ i => i.noErrorNode
  | .foldLast _ _ _ b l => b.noErrorNode && l.noErrorNode
  | .error => false
  | _ => true

/-- number of `Instruction::Error` nodes = number of `errors.push(..)` executed by recovery actions -/
def SInstr.errorNodes : SInstr → Nat
  | .seq _ l r | .par _ l r | .xor _ l r => l.errorNodes + r.errorNodes
  | .match_ _ _ _ i | .mismatch _ _ _ i | .new _ _ i | .fold _ _ _ i => i.errorNodes
  | .foldLast _ _ _ b l => b.errorNodes + l.errorNodes
  | .error => 1
  | _ => 0

/-- drop the spans (the executor's AST keeps only the spans of `new` and stream/map folds) -/
def SInstr.erase : SInstr → Option Instr
  | .call _ p s f a o => some (.call p s f a o)
  | .seq _ l r => do pure (.seq (← l.erase) (← r.erase))
  | .par _ l r => do pure (.par (← l.erase) (← r.erase))
  | .xor _ l r => do pure (.xor (← l.erase) (← r.erase))
  | .match_ _ a b i => do pure (.match_ a b (← i.erase))
  | .mismatch _ a b i => do pure (.mismatch a b (← i.erase))
  | .ap _ a r => some (.ap a r.toCallOutput)
  | .apMap _ k v m p => some (.apMap k v m p)
  | .canon _ p s sp c => some (.canon p s sp c)
  | .canonMap _ p m mp c => some (.canonMap p m mp c)
  | .canonMapScalar _ p m mp s => some (.canonMapScalar p m mp s)
  | .fold sp it i b => do
    let b ← b.erase
    pure (match it with
      | .scalar v => .foldScalar v i b none
      | .stream n p => .foldStream n p i b none sp.left
      | .streamMap n p => .foldMap n p i b none sp.left)
  | .foldLast sp it i b l => do
    let b ← b.erase
    let l ← l.erase
    pure (match it with
      | .scalar v => .foldScalar v i b (some l)
      | .stream n p => .foldStream n p i b (some l) sp.left
      | .streamMap n p => .foldMap n p i b (some l) sp.left)
  | .next _ i => some (.next i)
  | .new sp a b => do pure (.new a (← b.erase) sp.left sp.right)
  | .fail _ a => some (.fail a)
  | .null _ => some .null
  | .never _ => some .never
  | .error => none

theorem SInstr.erase_isSome_of_noErrorNode (i : SInstr) (h : i.noErrorNode = true) : i.erase.isSome = true := by
  induction i with
  | seq _ l r ihl ihr | par _ l r ihl ihr | xor _ l r ihl ihr | foldLast _ _ _ l r ihl ihr =>
    obtain ⟨hl, hr⟩ := Bool.and_eq_true_iff.mp h
    obtain ⟨a, ha⟩ := Option.isSome_iff_exists.mp (ihl hl)
    obtain ⟨b, hb⟩ := Option.isSome_iff_exists.mp (ihr hr)
    simp [erase, ha, hb]
  | match_ _ _ _ i ih | mismatch _ _ _ i ih | new _ _ i ih | fold _ _ _ i ih =>
    obtain ⟨a, ha⟩ := Option.isSome_iff_exists.mp (ih h)
    simp [erase, ha]
  | error => cases h
  | _ => rfl

end Aqua.Air
