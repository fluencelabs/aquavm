/-
Bytes, the error value of the outcome, `indexOf?`, and a few facts about lists and `if` that the lemma library uses in
several places.
-/
namespace Aqua

abbrev Bytes := List UInt8

/-- error value carried to the outcome: positional error code and rendered message -/
structure Err where
  code : Int
  msg : String
deriving Repr, DecidableEq, Inhabited

/-- index of the first element equal to `x` (the model of `iter().position(..)`) -/
def indexOf? [BEq α] (x : α) : List α → Option Nat
  | [] => none
  | y :: ys => if y == x then some 0 else (indexOf? x ys).map (· + 1)

theorem indexOf?_lt [BEq α] (x : α) (l : List α) (i : Nat) (h : indexOf? x l = some i) : i < l.length := by
  induction l generalizing i with
  | nil => cases h
  | cons y ys ih =>
    rw [indexOf?] at h
    split at h
    · cases h; exact Nat.zero_lt_succ _
    · obtain ⟨j, hj, rfl⟩ := Option.map_eq_some_iff.mp h
      exact Nat.succ_lt_succ (ih j hj)

theorem mapM_map_some {α β : Type} (enc : α → β) (dec : β → Option α) (l : List α) (h : ∀ x ∈ l, dec (enc x) = some x) :
    (l.map enc).mapM dec = some l := by
  induction l with
  | nil => rfl
  | cons x xs ih =>
    simp [List.mapM_cons, h x (by simp), ih fun y hy => h y (List.mem_cons_of_mem _ hy)]

theorem lt_of_getElem?_eq_some {α : Type} {l : List α} {i : Nat} {x : α} (h : l[i]? = some x) : i < l.length :=
  (List.getElem?_eq_some_iff.mp h).1

theorem set_eq_self_of_getElem?_eq_some {α : Type} {l : List α} {i : Nat} {x : α} (h : l[i]? = some x) : l.set i x = l := by
  obtain ⟨h', rfl⟩ := List.getElem?_eq_some_iff.mp h
  exact List.set_getElem_self h'

/-- Case analysis on an `if` under a predicate.  It applies by plain unification to a goal `P (if c then a else b)`
whose `P` is a constant applied to the `if` last; predicates stated in that form let a function made of nested `if`s
be followed by a term of the same shape (`split` on such a chain is slow to check: its cost doubles with every remaining `else if`). -/
theorem ite_ind {α : Sort _} {P : α → Prop} {c : Prop} [Decidable c] {a b : α} (ha : c → P a) (hb : ¬ c → P b) :
    P (if c then a else b) := by
  split
  · exact ha ‹_›
  · exact hb ‹_›

end Aqua
