/-
`Res ε α`: the result of a modelled Rust computation — a value, an `Err(e)`, or a *panic* at a named
site (unwrap/expect/index/overflow with `overflow-checks = true`).  Panics are values so that
"never panics" is a theorem about the model and not an artefact of totalisation.
-/
namespace Aqua

inductive Res (ε α : Type) where
  | ok (a : α)
  | error (e : ε)
  | panic (site : String)
deriving Repr

namespace Res
variable {ε α β : Type}

@[inline] def bind (x : Res ε α) (f : α → Res ε β) : Res ε β :=
  match x with
  | .ok a => f a
  | .error e => .error e
  | .panic s => .panic s

instance : Monad (Res ε) where
  pure := .ok
  bind := bind

def mapErr {ε'} (f : ε → ε') : Res ε α → Res ε' α
  | .ok a => .ok a
  | .error e => .error (f e)
  | .panic s => .panic s

def isPanic : Res ε α → Bool
  | .panic _ => true
  | _ => false

def isOk : Res ε α → Bool
  | .ok _ => true
  | _ => false

/-- `Option::ok_or` -/
def ofOption (e : ε) : Option α → Res ε α
  | some a => .ok a
  | none => .error e

/-- `Option::unwrap` / `expect` -/
def unwrap (site : String) : Option α → Res ε α
  | some a => .ok a
  | none => .panic site

@[simp] theorem bind_ok (a : α) (f : α → Res ε β) : (Res.ok a >>= f) = f a := rfl
@[simp] theorem bind_error (e : ε) (f : α → Res ε β) : ((Res.error e : Res ε α) >>= f) = .error e := rfl
@[simp] theorem bind_panic (s : String) (f : α → Res ε β) : ((Res.panic s : Res ε α) >>= f) = .panic s := rfl

section
variable {ε ε' α β : Type}
theorem bind_eq_ok {x : Res ε α} {f : α → Res ε β} {b : β} :
    (x >>= f) = .ok b ↔ ∃ a, x = .ok a ∧ f a = .ok b := by
  cases x <;> simp
theorem bind_eq_ok' {x : Res ε α} {f : α → Res ε β} {b : β} :
    (x.bind f) = .ok b ↔ ∃ a, x = .ok a ∧ f a = .ok b := bind_eq_ok
theorem pure_eq_ok {a b : α} : (pure a : Res ε α) = .ok b ↔ a = b := by
  simp [pure]
theorem mapErr_eq_ok {x : Res ε α} {f : ε → ε'} {a : α} : x.mapErr f = .ok a ↔ x = .ok a := by
  cases x <;> simp [Res.mapErr]
theorem ofOption_eq_ok {e : ε} {o : Option α} {a : α} : ofOption e o = .ok a ↔ o = some a := by
  cases o <;> simp [ofOption]
theorem bind_assoc {γ : Type} (x : Res ε α) (f : α → Res ε β) (g : β → Res ε γ) :
    x >>= f >>= g = x >>= fun a => f a >>= g := by cases x <;> rfl
end

end Res

def u32Max : Nat := 4294967295

/-- `u32 + u32` with overflow checks -/
def addU32 {ε} (site : String) (a b : Nat) : Res ε Nat :=
  if a + b > u32Max then .panic site else .ok (a + b)

/-- `u32 - u32` with overflow checks -/
def subU32 {ε} (site : String) (a b : Nat) : Res ε Nat :=
  if a < b then .panic site else .ok (a - b)

/-- `usize as u32` -/
def truncU32 (n : Nat) : Nat := n % (u32Max + 1)

theorem subU32_eq_ok {ε : Type} {site : String} {a b c : Nat} : (subU32 site a b : Res ε Nat) = .ok c ↔ b ≤ a ∧ c = a - b := by
  unfold subU32
  split
  · next hlt => exact ⟨nofun, fun h => absurd h.1 (Nat.not_le.mpr hlt)⟩
  · next hge => exact ⟨fun h => ⟨Nat.le_of_not_lt hge, (Res.ok.inj h).symm⟩, fun h => congrArg _ h.2.symm⟩

theorem truncU32_of_le {n : Nat} (h : n ≤ u32Max) : truncU32 n = n := Nat.mod_eq_of_lt (Nat.lt_succ_of_le h)

end Aqua
