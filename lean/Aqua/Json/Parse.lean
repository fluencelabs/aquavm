import Aqua.Json.Value
/-!
# JSON text → `JVal`: model of `serde_json::from_str::<JValue>` (C26)

`air_interpreter_value::JValue` implements `Deserialize` with a visitor copied from `serde_json::Value`
(`crates/air-lib/interpreter-value/src/value/de.rs`); every place of the interpreter that reads JSON
text (`serde_json::from_str(&service_result.result)`, `RawValue::get_value`) runs
`serde_json::Deserializer<StrRead>` (serde_json 1.0.108, features `std`, `raw_value` only — no
`arbitrary_precision`, no `float_roundtrip`, no `preserve_order`, no `unbounded_depth`) against that
visitor.  This file follows that deserializer function by function (`de.rs`, `read.rs`), keeping the
names:

* `parse_whitespace`, `parse_ident`, `parse_integer`, `parse_number`, `parse_long_integer`,
  `parse_decimal`, `parse_decimal_overflow`, `parse_exponent`, `parse_exponent_overflow`,
* `SliceRead::parse_str_bytes` + `parse_escape` + `decode_hex_escape` (surrogate pairs; lone surrogates
  rejected because `validate = true` for `parse_str`),
* `deserialize_any` with `check_recursion!` (`remaining_depth` starts at 128), `SeqAccess::next_element_seed`,
  `MapAccess::next_key_seed`/`next_value_seed`, `end_seq`, `end_map`, `Deserializer::end`,
* the visitor: `visit_u64`/`visit_i64` ↦ `num`, `visit_f64` ↦ `float`, `visit_seq`, `visit_map`
  (`BTreeMap::insert` in text order: later duplicate keys win).

The text is a `List Char` (the Rust code works on the UTF-8 bytes of a `&str`; every byte it inspects
is ASCII and multi-byte sequences are copied verbatim, so the two views coincide).

**Floats.**  `f64` arithmetic is not modelled.  The lexer computes exactly what serde_json computes
before it touches floating point — the sign, the `u64` significand and the (saturated `i32`) decimal
exponent — and hands them to a parameter `fo : FloatOracle` standing for
`f64_from_parts(positive, significand, exponent)` followed by printing (`ryu`): `none` = the
`NumberOutOfRange` error, `some r` = the text serde_json prints for the resulting `f64`.  The harness
implements the oracle with serde_json itself (see `harness/src/props/c26.rs`).

Rejections are explicit (`Except PErr`); `PErr.fuel` is the totalisation artefact and is never
returned for the fuel `parseWith` supplies (theorem `C26_model_never_out_of_fuel`; the correspondence
also treats a `fuel` answer as a disagreement).
-/
namespace Aqua.Json

/-- `f64_from_parts positive significand exponent`, printed; `none` = `NumberOutOfRange` -/
abbrev FloatOracle := Bool → Nat → Int → Option String

inductive PErr where
  | syntax            -- any `ErrorCode` of category Syntax/Eof other than the two below
  | recursionLimit    -- `RecursionLimitExceeded`
  | numberOutOfRange  -- `NumberOutOfRange`
  | fuel              -- model artefact: out of fuel (unreachable from `parseWith`)
deriving DecidableEq, Repr, Inhabited

abbrev PRes (α : Type) := Except PErr (α × List Char)

def u64Max : Nat := 18446744073709551615
def i64MinAbs : Nat := 9223372036854775808
def i32Max : Nat := 2147483647

/-- `b' ' | b'\n' | b'\t' | b'\r'` -/
def isWs (c : Char) : Bool := c = ' ' || c = '\n' || c = '\t' || c = '\r'

/-- `parse_whitespace`: the input from the first non-whitespace character on -/
def skipWs : List Char → List Char
  | [] => []
  | c :: cs => if isWs c then skipWs cs else c :: cs

/-- `b'0'..=b'9'` -/
def isDigit (c : Char) : Bool := 48 ≤ c.toNat && c.toNat ≤ 57
def digitVal (c : Char) : Nat := c.toNat - 48

/-- `overflow!(a * 10 + b, c)` -/
def overflowMul (a b c : Nat) : Bool := a ≥ c / 10 && (a > c / 10 || b > c % 10)

/-- `while let b'0'..=b'9' = peek { eat_char }` -/
def dropDigits : List Char → List Char
  | [] => []
  | c :: cs => if isDigit c then dropDigits cs else c :: cs

/-- `parse_ident`: the remaining letters of `null`/`true`/`false` -/
def parseIdent : List Char → List Char → Option (List Char)
  | [], cs => some cs
  | _ :: _, [] => none
  | e :: es, c :: cs => if c = e then parseIdent es cs else none

/-! ## Numbers -/

/-- `f64_from_parts` + `visit_f64` (`Number::from_f64` of a finite value) -/
def f64FromParts (fo : FloatOracle) (positive : Bool) (significand : Nat) (exponent : Int) (rest : List Char) : PRes JVal :=
  match fo positive significand exponent with
  | some r => .ok (.float r, rest)
  | none => .error .numberOutOfRange

/-- saturating `i32` -/
def satI32 (x : Int) : Int := if x > 2147483647 then 2147483647 else if x < -2147483648 then -2147483648 else x

/-- `parse_exponent_overflow`: `±0.0` unless a non-zero significand has a huge positive exponent -/
def parseExponentOverflow (fo : FloatOracle) (positive zeroSignificand positiveExp : Bool) (cs : List Char) : PRes JVal :=
  if !zeroSignificand && positiveExp then .error .numberOutOfRange
  else f64FromParts fo positive 0 0 (dropDigits cs)     -- `Ok(if positive { 0.0 } else { -0.0 })`

/-- the exponent digit loop of `parse_exponent`; `none` = `overflow!(exp * 10 + digit, i32::MAX)` hit
(the offending digit is already eaten) -/
def expLoop (exp : Nat) : List Char → Option Nat × List Char
  | [] => (some exp, [])
  | c :: cs =>
    if isDigit c then
      if overflowMul exp (digitVal c) i32Max then (none, cs) else expLoop (exp * 10 + digitVal c) cs
    else (some exp, c :: cs)

/-- the optional sign of the exponent: `(positive_exp, input after the sign)` -/
def expSign : List Char → Bool × List Char
  | [] => (true, [])
  | c :: r => if c = '+' then (true, r) else if c = '-' then (false, r) else (true, c :: r)

/-- `parse_exponent` (input: after the `e`/`E`) -/
def parseExponent (fo : FloatOracle) (positive : Bool) (significand : Nat) (startingExp : Int) (cs : List Char) : PRes JVal :=
  match (expSign cs).2 with
  | [] => .error .syntax                                 -- EofWhileParsingValue
  | c :: cs2 =>
    if isDigit c then
      match expLoop (digitVal c) cs2 with
      | (none, rest) => parseExponentOverflow fo positive (significand == 0) (expSign cs).1 rest
      | (some exp, rest) =>
        let finalExp := if (expSign cs).1 then satI32 (startingExp + exp) else satI32 (startingExp - exp)
        f64FromParts fo positive significand finalExp rest
    else .error .syntax                                  -- InvalidNumber

/-- what follows the digits of a float: an exponent or nothing -/
def numberTail (fo : FloatOracle) (positive : Bool) (significand : Nat) (exponent : Int) (cs : List Char) : PRes JVal :=
  match cs with
  | [] => f64FromParts fo positive significand exponent []
  | c :: r => if c = 'e' || c = 'E' then parseExponent fo positive significand exponent r
              else f64FromParts fo positive significand exponent (c :: r)

/-- the fraction digit loop of `parse_decimal`: `(significand, digits eaten, overflow?, rest)` -/
def decLoop (significand n : Nat) : List Char → Nat × Nat × Bool × List Char
  | [] => (significand, n, false, [])
  | c :: cs =>
    if isDigit c then
      if overflowMul significand (digitVal c) u64Max then (significand, n, true, c :: cs)
      else decLoop (significand * 10 + digitVal c) (n + 1) cs
    else (significand, n, false, c :: cs)

/-- `parse_decimal` (input: after the `.`) with `parse_decimal_overflow` -/
def parseDecimal (fo : FloatOracle) (positive : Bool) (significand : Nat) (exponentBefore : Int) (cs : List Char) : PRes JVal :=
  match decLoop significand 0 cs with
  | (sig, n, true, rest) => numberTail fo positive sig (exponentBefore - n) (dropDigits rest)
  | (sig, n, false, rest) =>
    if n = 0 then .error .syntax                         -- no digit after the decimal point
    else numberTail fo positive sig (exponentBefore - n) rest

/-- `(significand as i64).wrapping_neg()` -/
def wrappingNegAsI64 (significand : Nat) : Int :=
  let asI64 : Int := if significand < i64MinAbs then significand else (significand : Int) - 18446744073709551616
  if asI64 = -9223372036854775808 then asI64 else -asI64

/-- `parse_number` -/
def parseNumber (fo : FloatOracle) (positive : Bool) (significand : Nat) (cs : List Char) : PRes JVal :=
  let int : PRes JVal :=
    if positive then .ok (.num significand, cs)                     -- `ParserNumber::U64`
    else
      let neg := wrappingNegAsI64 significand
      if neg ≥ 0 then f64FromParts fo false significand 0 cs        -- `-0` and underflow: `-(significand as f64)`
      else .ok (.num neg, cs)                                       -- `ParserNumber::I64`
  match cs with
  | [] => int
  | c :: r =>
    if c = '.' then parseDecimal fo positive significand 0 r
    else if c = 'e' || c = 'E' then parseExponent fo positive significand 0 r
    else int

/-- `parse_long_integer` (no `float_roundtrip`): further integer digits only move the exponent -/
def parseLongInteger (fo : FloatOracle) (positive : Bool) (significand : Nat) (exponent : Nat) : List Char → PRes JVal
  | [] => f64FromParts fo positive significand exponent []
  | c :: cs =>
    if isDigit c then parseLongInteger fo positive significand (exponent + 1) cs
    else if c = '.' then parseDecimal fo positive significand exponent cs
    else if c = 'e' || c = 'E' then parseExponent fo positive significand exponent cs
    else f64FromParts fo positive significand exponent (c :: cs)

/-- the digit loop of `parse_integer` -/
def intLoop (fo : FloatOracle) (positive : Bool) (significand : Nat) : List Char → PRes JVal
  | [] => parseNumber fo positive significand []
  | c :: cs =>
    if isDigit c then
      if overflowMul significand (digitVal c) u64Max then parseLongInteger fo positive significand 0 (c :: cs)
      else intLoop fo positive (significand * 10 + digitVal c) cs
    else parseNumber fo positive significand (c :: cs)

/-- `parse_integer` (= `parse_any_number` without `arbitrary_precision`) -/
def parseInteger (fo : FloatOracle) (positive : Bool) : List Char → PRes JVal
  | [] => .error .syntax                                 -- EofWhileParsingValue
  | c :: cs =>
    if c = '0' then
      match cs with
      | [] => parseNumber fo positive 0 []
      | d :: _ => if isDigit d then .error .syntax       -- leading zero
                  else parseNumber fo positive 0 cs
    else if isDigit c then intLoop fo positive (digitVal c) cs
    else .error .syntax                                  -- InvalidNumber

/-- the two number arms of `deserialize_any`: `b'-'` and `b'0'..=b'9'` -/
def parseNumTok (fo : FloatOracle) : List Char → PRes JVal
  | [] => .error .syntax
  | c :: cs => if c = '-' then parseInteger fo false cs
               else if isDigit c then parseInteger fo true (c :: cs)
               else .error .syntax

/-! ## Strings -/

/-- `decode_hex_val` (the `HEX` table) -/
def hexVal (c : Char) : Option Nat :=
  let n := c.toNat
  if 48 ≤ n ∧ n ≤ 57 then some (n - 48)
  else if 65 ≤ n ∧ n ≤ 70 then some (n - 55)
  else if 97 ≤ n ∧ n ≤ 102 then some (n - 87)
  else none

/-- `decode_hex_escape` on four characters -/
def hex4 (a b c d : Char) : Option Nat :=
  match hexVal a, hexVal b, hexVal c, hexVal d with
  | some x, some y, some z, some w => some (((x * 16 + y) * 16 + z) * 16 + w)
  | _, _, _, _ => none

/-- the one-letter escapes of `parse_escape` -/
def simpleEscape (c : Char) : Option Char :=
  if c = '"' then some '"'
  else if c = '\\' then some '\\'
  else if c = '/' then some '/'
  else if c = 'b' then some (Char.ofNat 8)
  else if c = 'f' then some (Char.ofNat 12)
  else if c = 'n' then some '\n'
  else if c = 'r' then some '\r'
  else if c = 't' then some '\t'
  else none

/-- `char::from_u32` -/
def charFromU32 (n : Nat) : Option Char := if n < 0xD800 ∨ (0xDFFF < n ∧ n < 0x110000) then some (Char.ofNat n) else none

def consChar (c : Char) (r : PRes (List Char)) : PRes (List Char) :=
  match r with
  | .ok (s, rest) => .ok (c :: s, rest)
  | .error e => .error e

/-- `parse_escape(validate = true)` (input: after the backslash): the decoded character and the input
after the escape sequence -/
def parseEscape : List Char → Option (Char × List Char)
  | [] => none                                           -- EofWhileParsingString
  | e :: cs1 =>
    if e = 'u' then
      match cs1 with
      | h1 :: h2 :: h3 :: h4 :: cs2 =>
        match hex4 h1 h2 h3 h4 with
        | none => none                                   -- InvalidEscape
        | some n1 =>
          if 0xDC00 ≤ n1 ∧ n1 ≤ 0xDFFF then none         -- LoneLeadingSurrogateInHexEscape
          else if 0xD800 ≤ n1 ∧ n1 ≤ 0xDBFF then
            match cs2 with
            | b :: u :: l1 :: l2 :: l3 :: l4 :: cs3 =>
              if b = '\\' ∧ u = 'u' then
                match hex4 l1 l2 l3 l4 with
                | none => none
                | some n2 =>
                  if n2 < 0xDC00 ∨ n2 > 0xDFFF then none
                  else
                    match charFromU32 (((n1 - 0xD800) * 1024 + (n2 - 0xDC00)) + 0x10000) with
                    | some ch => some (ch, cs3)
                    | none => none
              else none                                  -- UnexpectedEndOfHexEscape
            | _ => none
          else
            match charFromU32 n1 with
            | some ch => some (ch, cs2)
            | none => none
      | _ => none                                        -- EofWhileParsingString
    else
      match simpleEscape e with
      | some ch => some (ch, cs1)
      | none => none                                     -- InvalidEscape

theorem parseEscape_length {cs : List Char} {ch : Char} {rest : List Char}
    (h : parseEscape cs = some (ch, rest)) : rest.length < cs.length := by
  -- branch by branch: the result is `none`, or the rest is what follows the one, five or eleven characters read
  revert h
  fun_cases parseEscape cs <;> intro h <;> cases h <;> (simp only [List.length_cons]; omega)

/-- `SliceRead::parse_str_bytes(validate = true)`; input: after the opening quote; result: the characters
of the string and the input after the closing quote -/
def parseStrChars : List Char → PRes (List Char)
  | [] => .error .syntax                                 -- EofWhileParsingString
  | c :: cs =>
    if c = '"' then .ok ([], cs)
    else if c = '\\' then
      match h : parseEscape cs with
      | none => .error .syntax
      | some (ch, rest) => consChar ch (parseStrChars rest)
    else if c.toNat < 32 then .error .syntax             -- ControlCharacterWhileParsingString
    else consChar c (parseStrChars cs)
termination_by cs => cs.length
decreasing_by
  · have := parseEscape_length h; simp only [List.length_cons]; omega
  · simp only [List.length_cons]; omega

/-- `parse_str` + `visit_str` -/
def parseStr (cs : List Char) : PRes String :=
  match parseStrChars cs with
  | .ok (s, rest) => .ok (String.ofList s, rest)
  | .error e => .error e

/-! ## Values -/

mutual
/-- `deserialize_any` with `JValue`'s `ValueVisitor`; `depth` = `remaining_depth` -/
def parseValue (fo : FloatOracle) : Nat → Nat → List Char → PRes JVal
  | 0, _, _ => .error .fuel
  | fuel + 1, depth, cs =>
    match skipWs cs with
    | [] => .error .syntax                               -- EofWhileParsingValue
    | c :: rest =>
      if c = 'n' then
        match parseIdent ['u', 'l', 'l'] rest with
        | some r => .ok (.null, r)
        | none => .error .syntax
      else if c = 't' then
        match parseIdent ['r', 'u', 'e'] rest with
        | some r => .ok (.bool true, r)
        | none => .error .syntax
      else if c = 'f' then
        match parseIdent ['a', 'l', 's', 'e'] rest with
        | some r => .ok (.bool false, r)
        | none => .error .syntax
      else if c = '-' || isDigit c then parseNumTok fo (c :: rest)
      else if c = '"' then
        match parseStr rest with
        | .ok (s, r) => .ok (.str s, r)
        | .error e => .error e
      else if c = '[' then
        if depth ≤ 1 then .error .recursionLimit         -- `remaining_depth -= 1; if remaining_depth == 0`
        else
          match parseElems fo fuel (depth - 1) true rest with
          | .error e => .error e
          | .ok (vs, r) =>
            -- `end_seq`
            match skipWs r with
            | [] => .error .syntax
            | c' :: r' => if c' = ']' then .ok (.arr vs, r') else .error .syntax
      else if c = '{' then
        if depth ≤ 1 then .error .recursionLimit
        else
          match parseMembers fo fuel (depth - 1) true rest with
          | .error e => .error e
          | .ok (kvs, r) =>
            -- `end_map`
            match skipWs r with
            | [] => .error .syntax
            | c' :: r' => if c' = '}' then .ok (JVal.mkObj kvs, r') else .error .syntax
      else .error .syntax                                -- ExpectedSomeValue
/-- `visit_seq`: `SeqAccess::next_element_seed` until it yields `None` (at `]`, not consumed) -/
def parseElems (fo : FloatOracle) : Nat → Nat → Bool → List Char → PRes (List JVal)
  | 0, _, _, _ => .error .fuel
  | fuel + 1, depth, first, cs =>
    match skipWs cs with
    | [] => .error .syntax                               -- EofWhileParsingList
    | c :: rest =>
      if c = ']' then .ok ([], c :: rest)
      else
        let start : Option (List Char) :=
          if c = ',' && !first then some (skipWs rest)
          else if first then some (c :: rest)
          else none                                      -- ExpectedListCommaOrEnd
        match start with
        | none => .error .syntax
        | some [] => .error .syntax                      -- EofWhileParsingValue
        | some (c' :: rest') =>
          if c' = ']' then .error .syntax                -- TrailingComma
          else
            match parseValue fo fuel depth (c' :: rest') with
            | .error e => .error e
            | .ok (v, r) =>
              match parseElems fo fuel depth false r with
              | .error e => .error e
              | .ok (vs, r') => .ok (v :: vs, r')
/-- `visit_map`: `next_key_seed` / `next_value_seed` until `None` (at `}`, not consumed); the pairs in
text order -/
def parseMembers (fo : FloatOracle) : Nat → Nat → Bool → List Char → PRes (List (String × JVal))
  | 0, _, _, _ => .error .fuel
  | fuel + 1, depth, first, cs =>
    match skipWs cs with
    | [] => .error .syntax                               -- EofWhileParsingObject
    | c :: rest =>
      if c = '}' then .ok ([], c :: rest)
      else
        let start : Option (List Char) :=
          if c = ',' && !first then some (skipWs rest)
          else if first then some (c :: rest)
          else none                                      -- ExpectedObjectCommaOrEnd
        match start with
        | none => .error .syntax
        | some [] => .error .syntax
        | some (c' :: rest') =>
          if c' = '"' then
            match parseStr rest' with
            | .error e => .error e
            | .ok (k, r) =>
              -- `parse_object_colon`
              match skipWs r with
              | [] => .error .syntax
              | c'' :: r' =>
                if c'' = ':' then
                  match parseValue fo fuel depth r' with
                  | .error e => .error e
                  | .ok (v, r'') =>
                    match parseMembers fo fuel depth false r'' with
                    | .error e => .error e
                    | .ok (kvs, r''') => .ok ((k, v) :: kvs, r''')
                else .error .syntax
          else .error .syntax                            -- KeyMustBeAString / TrailingComma
end

/-- `Deserializer::new` starts with `remaining_depth: 128` -/
def recursionLimit : Nat := 128

/-- `serde_json::from_str::<JValue>` (`from_trait`: one value, then `Deserializer::end`), with the
recursion limit as a parameter -/
def JVal.parseList (fo : FloatOracle) (limit : Nat) (cs : List Char) : Except PErr JVal :=
  match parseValue fo (2 * cs.length + 8) limit cs with
  | .error e => .error e
  | .ok (v, rest) =>
    match skipWs rest with
    | [] => .ok v
    | _ :: _ => .error .syntax                           -- TrailingCharacters

def JVal.parseWith (fo : FloatOracle) (s : String) : Except PErr JVal := JVal.parseList fo recursionLimit s.toList

/-- accept/reject view -/
def JVal.parse (fo : FloatOracle) (s : String) : Option JVal :=
  match JVal.parseWith fo s with
  | .ok v => some v
  | .error _ => none

end Aqua.Json
