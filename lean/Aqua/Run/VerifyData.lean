import Aqua.Base.Res
import Aqua.Data.ExecutedState
import Aqua.Exec.Types
import Aqua.Run.Verify
import Aqua.Crypto.Cid
import Aqua.Crypto.SigScheme
import Aqua.Gen.Consts
/-!
# The verification step on decoded data

Replica of
* `air/src/verification_step.rs: verify` (`verifyStep`),
* `crates/air-lib/interpreter-data/src/cid_info.rs: CidInfo::verify` + `cid_store.rs` (`CidInfo.verify`),
* `crates/air-lib/interpreter-cid/src/verify.rs: verify_value / verify_raw_value` (`realCidCheck`),
* `crates/air-lib/interpreter-data/src/interpreter_data/verification.rs: DataVerifier::{new, verify}`,
  `collect_peers_cids_from_trace`, `try_push_cid` (the `merge` is in `Aqua.Run.Verify`).

Stores and the signature store are `HashMap`s in the code: here association lists, read with keyed
lookup; where the code iterates a map (and the first error found depends on the iteration order) the
model iterates the list, and the correspondence run lists the entries in the order of the very map
instance the real function is run on.

The hash functions and the signature algorithm are parameters (`VerifyEnv`); `realCidCheck` is the
instance with the executable SHA-256 / BLAKE3 / CID parser of `Aqua.Crypto`.
-/
namespace Aqua.Run
open Aqua Aqua.Data Aqua.Exec Aqua.Crypto

/-! ## errors -/

/-- `CidVerificationError` (`InvalidJson` cannot arise for the stored types) -/
inductive CidVerificationError where
  | valueMismatch (cid : Cid)
  | malformedCid (cid : Cid)
  | unsupportedCidCodec (codec : Nat)
  | unsupportedHashCode (code : Nat)
deriving Repr, DecidableEq, Inhabited

def CidVerificationError.variant : CidVerificationError → String
  | .valueMismatch _ => "ValueMismatch" | .malformedCid _ => "MalformedCid"
  | .unsupportedCidCodec _ => "UnsupportedCidCodec" | .unsupportedHashCode _ => "UnsupportedHashCode"

/-- `CidStoreVerificationError`; `store` names the store whose entry failed -/
inductive CidStoreVerificationError where
  | cidVerificationError (store : String) (e : CidVerificationError)
  | missingReference (source target : String) (targetCid : Cid)
  /-- a value-store entry whose text is not JSON (`verify_raw_value`, added by the repair of the lazy
  `RawValue::get_value` panic) -/
  | malformedValue (cid : Cid)
deriving Repr, DecidableEq, Inhabited

/-- `DataVerifierError` -/
inductive DataVerifierError where
  | malformedKey (key : String)
  | peerIdNotFound (peer : String)
  | signatureMismatch (peer : String) (cids : List Cid)
  | mergeMismatch (peer : String)
  /-- the trace names a CID that no store holds (was `expect("cannot happen in a checked CID store")`) -/
  | cidNotFound (cid : Cid)
deriving Repr, DecidableEq, Inhabited

def DataVerifierError.variant : DataVerifierError → String
  | .malformedKey _ => "MalformedKey" | .peerIdNotFound _ => "PeerIdNotFound"
  | .signatureMismatch .. => "SignatureMismatch" | .mergeMismatch _ => "MergeMismatch"
  | .cidNotFound _ => "CidNotFound"

/-- the two `PreparationError` variants the verification step produces -/
inductive VerificationError where
  | cidStoreVerificationError (e : CidStoreVerificationError)
  | dataSignatureCheckError (e : DataVerifierError)
deriving Repr, DecidableEq, Inhabited

def VerificationError.variant : VerificationError → String
  | .cidStoreVerificationError _ => "CidStoreVerificationError"
  | .dataSignatureCheckError _ => "DataSignatureCheckError"

/-! ## data -/

/-- `CanonCidAggregate` / `CanonResultCidAggregate` / `CidInfo`: the executor model's types (same stores, same JSON renderings —
the bytes hashed into the ids) -/
abbrev CanonCidAggregate := CanonElemAgg
abbrev CanonResultCidAggregate := CanonResultAgg
/-- `CidInfo`: `values` (raw JSON text), `tetraplets`, `canonElements`, `canonResults`, `serviceResults` -/
abbrev CidInfo := CidState

/-- the cryptographic environment of the verification step -/
structure VerifyEnv where
  PK : Type
  Sig : Type
  /-- `PublicKey::validate`: the key decodes and its algorithm is whitelisted -/
  validate : PK → Bool
  /-- `PublicKey::to_peer_id` -/
  toPeerId : PK → String
  /-- `PublicKey::to_string` (base58), for error values and the merged store -/
  keyText : PK → String
  sigText : Sig → String
  /-- `PublicKey::verify` on the serialised salted data -/
  verifySig : PK → Bytes → Sig → Bool
  /-- `verify_value` / `verify_raw_value`: does the CID text name these bytes -/
  cidCheck : Cid → Bytes → Except CidVerificationError Unit
  /-- `serde_json::from_str::<JValue>` succeeds on the text of a value-store entry -/
  isJson : String → Bool := fun _ => true

/-- the parts of `InterpreterData` the verification step reads -/
structure VData (E : VerifyEnv) where
  trace : Trace := []
  cidInfo : CidInfo := {}
  /-- `SignatureStore` -/
  signatures : List (E.PK × E.Sig) := []

/-! ## `verify_value` with the real hash functions -/

/-- `verify_raw_value` / `verify_json_value` on the serialised bytes -/
def realCidCheck (cid : Cid) (bytes : Bytes) : Except CidVerificationError Unit :=
  match parseCid cid with
  | none => .error (.malformedCid cid)
  | some c =>
    if c.codec != Gen.jsonCodec then .error (.unsupportedCidCodec c.codec)
    else if c.hashCode == sha256Code then
      (if sha256 bytes == c.digest then .ok () else .error (.valueMismatch cid))
    else if c.hashCode == blake3Code then
      (if blake3 bytes == c.digest then .ok () else .error (.valueMismatch cid))
    else .error (.unsupportedHashCode c.hashCode)

/-- the tables regenerated from the Rust sources on every run agree with what the model uses: the codec constant of
`interpreter-cid/src/lib.rs`, and every error variant the model can produce is a variant of the Rust enums -/
theorem generated_tables_agree :
    Gen.jsonCodec = Crypto.jsonCodec ∧
    (["MalformedKey", "PeerIdNotFound", "SignatureMismatch", "MergeMismatch", "CidNotFound"].all fun v => Gen.dataVerifierErrorVariants.contains v) = true ∧
    (["CidVerificationError", "MissingReference", "MalformedValue"].all fun v => Gen.cidStoreVerificationErrorVariants.contains v) = true ∧
    (["CidStoreVerificationError", "DataSignatureCheckError"].all fun v => Gen.preparationVariants.contains v) = true := by decide +kernel

/-! ## `CidInfo::verify` -/

/-- run a check over every element, first failure wins -/
def allOk {α ε : Type} (f : α → Except ε Unit) : List α → Except ε Unit
  | [] => .ok ()
  | x :: xs =>
    match f x with
    | .ok () => allOk f xs
    | .error e => .error e

/-- `CidStore::verify` / `verify_raw_value`: every key is the CID of its (serialised) value -/
def verifyStore {α : Type} (E : VerifyEnv) (name : String) (ser : α → String) (store : List (Cid × α)) :
    Except CidStoreVerificationError Unit :=
  allOk (fun (p : Cid × α) =>
    match E.cidCheck p.1 (strBytes (ser p.2)) with
    | .ok () => .ok ()
    | .error e => .error (.cidVerificationError name e)) store

/-- `CidStore<RawValue>::verify_raw_value`: every key is the CID of its text, and the text is JSON
(entry by entry: the CID check of an entry comes before its JSON check) -/
def verifyValueStore (E : VerifyEnv) (store : List (Cid × String)) : Except CidStoreVerificationError Unit :=
  allOk (fun (p : Cid × String) =>
    match E.cidCheck p.1 (strBytes p.2) with
    | .error e => .error (.cidVerificationError "value_store" e)
    | .ok () => if E.isJson p.2 then .ok () else .error (.malformedValue p.1)) store

/-- `CidStore::check_reference` -/
def checkReference {α : Type} (store : List (Cid × α)) (source target : String) (targetCid : Cid) :
    Except CidStoreVerificationError Unit :=
  match lookup store targetCid with
  | some _ => .ok ()
  | none => .error (.missingReference source target targetCid)

def andThen {ε : Type} (a : Except ε Unit) (b : Except ε Unit) : Except ε Unit :=
  match a with
  | .ok () => b
  | .error e => .error e

/-- `verify_canon_result_store` -/
def CidInfo.verifyCanonResultStore (E : VerifyEnv) (ci : CidInfo) : Except CidStoreVerificationError Unit :=
  andThen (verifyStore E "canon_element_store" CanonElemAgg.json ci.canonElements) <|
  andThen (verifyStore E "canon_result_store" CanonResultAgg.json ci.canonResults) <|
  andThen (allOk (fun (p : Cid × CanonResultCidAggregate) =>
      andThen (allOk (fun v => checkReference ci.canonElements "CanonResultCidAggregate" "CanonCidAggregate" v) p.2.values)
        (checkReference ci.tetraplets "CanonResultCidAggregate" "SecurityTetraplet" p.2.tetraplet))
    ci.canonResults) <|
  allOk (fun (p : Cid × CanonCidAggregate) =>
      andThen (checkReference ci.tetraplets "CanonCidAggregate" "SecurityTetraplet" p.2.tetraplet) <|
      andThen (checkReference ci.values "CanonCidAggregate" "RawValue" p.2.value) <|
      match p.2.provenance with
      | .literal => .ok ()
      | .serviceResult cid => checkReference ci.serviceResults "CanonCidAggregate" "ServiceResultCidAggregate" cid
      | .canon cid => checkReference ci.canonResults "CanonCidAggregate" "CanonResultCidAggregate" cid)
    ci.canonElements

/-- `verify_service_result_store` -/
def CidInfo.verifyServiceResultStore (E : VerifyEnv) (ci : CidInfo) : Except CidStoreVerificationError Unit :=
  andThen (verifyStore E "service_result_store" ServiceResultAgg.json ci.serviceResults) <|
  allOk (fun (p : Cid × ServiceResultAgg) =>
      andThen (checkReference ci.tetraplets "ServiceResultCidAggregate" "SecurityTetraplet" p.2.tetrapletCid)
        (checkReference ci.values "ServiceResultCidAggregate" "RawValue" p.2.valueCid))
    ci.serviceResults

/-- `CidInfo::verify` -/
def CidInfo.verify (E : VerifyEnv) (ci : CidInfo) : Except CidStoreVerificationError Unit :=
  andThen (verifyValueStore E ci.values) <|
  andThen (verifyStore E "tetraplet_store" Tetraplet.json ci.tetraplets) <|
  andThen (ci.verifyCanonResultStore E) <|
  ci.verifyServiceResultStore E

/-! ## `DataVerifier` -/

/-- `PeerInfo<'data>` of verification.rs -/
structure PeerInfoV (E : VerifyEnv) where
  publicKey : E.PK
  signature : E.Sig
  cids : List Cid

/-- `grouped_cids`: peer id ↦ its key, signature and CIDs -/
abbrev Grouped (E : VerifyEnv) := List (String × PeerInfoV E)

abbrev VR := Res DataVerifierError

/-- `try_push_cid` -/
def tryPushCid {E : VerifyEnv} (g : Grouped E) (peerPk : String) (cid : Cid) : VR (Grouped E) :=
  if g.any (fun p => p.1 == peerPk) then
    .ok (g.map fun p => if p.1 == peerPk then (p.1, { p.2 with cids := p.2.cids ++ [cid] }) else p)
  else .error (.peerIdNotFound peerPk)

/-- the body of the loop of `collect_peers_cids_from_trace` up to `try_push_cid`: which peer a trace
state is attributed to and under which CID (`none`: the state carries no signed result) -/
def stateContribution (ci : CidInfo) : ExecutedState → VR (Option (String × Cid))
  | .call c =>
    match c.getCid with
    | none => .ok none
    | some cid =>
      match lookup ci.serviceResults cid with
      | none => .error (.cidNotFound cid)
      | some sr =>
        match lookup ci.tetraplets sr.tetrapletCid with
        | none => .error (.cidNotFound sr.tetrapletCid)
        | some t => .ok (some (t.peerPk, cid))
  | .canon (.executed cid) =>
    match lookup ci.canonResults cid with
    | none => .error (.cidNotFound cid)
    | some cr =>
      match lookup ci.tetraplets cr.tetraplet with
      | none => .error (.cidNotFound cr.tetraplet)
      | some t => .ok (some (t.peerPk, cid))
  | _ => .ok none

/-- `collect_peers_cids_from_trace` -/
def collectPeersCidsFromTrace {E : VerifyEnv} (ci : CidInfo) : Trace → Grouped E → VR (Grouped E)
  | [], g => .ok g
  | st :: rest, g =>
    match stateContribution ci st with
    | .ok none => collectPeersCidsFromTrace ci rest g
    | .ok (some (peer, cid)) =>
      match tryPushCid g peer cid with
      | .ok g' => collectPeersCidsFromTrace ci rest g'
      | .error e => .error e
      | .panic s => .panic s
    | .error e => .error e
    | .panic s => .panic s

/-- `cids.sort_unstable()` on `Vec<Rc<str>>` (byte order of UTF-8 = code point order) -/
def sortCids (cids : List Cid) : List Cid := cids.mergeSort (fun a b => decide (a ≤ b))

/-- the `HashMap` collected from the signature store: peer id ↦ `PeerInfo::new(pk, sig)` -/
def initialGroups {E : VerifyEnv} (sigs : List (E.PK × E.Sig)) : Grouped E :=
  sigs.foldl (fun acc p => upsert acc (E.toPeerId p.1) (⟨p.1, p.2, []⟩ : PeerInfoV E)) []

/-- `DataVerifier::new` -/
def DataVerifier.new (E : VerifyEnv) (d : VData E) : VR (Grouped E) :=
  match d.signatures.find? (fun p => !E.validate p.1) with
  | some p => .error (.malformedKey (E.keyText p.1))
  | none =>
    match collectPeersCidsFromTrace d.cidInfo d.trace (initialGroups d.signatures) with
    | .ok g => .ok (g.map fun p => (p.1, { p.2 with cids := sortCids p.2.cids }))
    | .error e => .error e
    | .panic s => .panic s

def siteBorsh : String := "interpreter-signatures/lib.rs:SaltedData::serialize:expect(borsh serializer shouldn't fail)"

/-- `DataVerifier::verify`: every peer of the signature store — also one without any CID in the
trace — must have signed its (sorted) CID list salted with the particle id -/
def DataVerifier.verify (E : VerifyEnv) (salt : String) : Grouped E → VR Unit
  | [] => .ok ()
  | p :: rest =>
    match saltedData p.2.cids salt with
    | none => .panic siteBorsh
    | some m =>
      if E.verifySig p.2.publicKey m p.2.signature then DataVerifier.verify E salt rest
      else .error (.signatureMismatch p.1 p.2.cids)

/-- the checks of the verification step that concern the current data alone -/
def verifyData (E : VerifyEnv) (cur : VData E) (salt : String) : Res VerificationError Unit :=
  match cur.cidInfo.verify E with
  | .error e => .error (.cidStoreVerificationError e)
  | .ok () =>
    match DataVerifier.new E cur with
    | .error e => .error (.dataSignatureCheckError e)
    | .panic s => .panic s
    | .ok g => (DataVerifier.verify E salt g).mapErr .dataSignatureCheckError

def toPeerInfo {E : VerifyEnv} (p : String × PeerInfoV E) : String × PeerInfo :=
  (p.1, { publicKey := E.keyText p.2.publicKey, signature := E.sigText p.2.signature, cids := p.2.cids })

/-- `verification_step::verify(prev_data, current_data, salt)`: the merged signature store as
(peer id, key, signature) entries -/
def verifyStep (E : VerifyEnv) (prev cur : VData E) (salt : String) : Res VerificationError (List (String × PeerInfo)) :=
  match cur.cidInfo.verify E with
  | .error e => .error (.cidStoreVerificationError e)
  | .ok () =>
    match DataVerifier.new E prev with
    | .error e => .error (.dataSignatureCheckError e)
    | .panic s => .panic s
    | .ok pv =>
      match DataVerifier.new E cur with
      | .error e => .error (.dataSignatureCheckError e)
      | .panic s => .panic s
      | .ok cv =>
        match DataVerifier.verify E salt cv with
        | .error e => .error (.dataSignatureCheckError e)
        | .panic s => .panic s
        | .ok () =>
          match mergeVerifiers (pv.map toPeerInfo) (cv.map toPeerInfo) with
          | .ok merged => .ok merged
          | .error peer => .error (.dataSignatureCheckError (.mergeMismatch peer))

/-! ## what the theorems talk about -/

/-- the CIDs of the trace states attributed (through the stores) to peer `q`, in trace order -/
def peerCids (ci : CidInfo) (trace : Trace) (q : String) : List Cid :=
  trace.filterMap fun st =>
    match stateContribution ci st with
    | .ok (some (p, cid)) => if p == q then some cid else none
    | _ => none

/-- the environment built from a symbolic signature scheme -/
def VerifyEnv.ofScheme (S : SigScheme) (validate : S.PublicKey → Bool) (toPeerId keyText : S.PublicKey → String)
    (sigText : S.Sig → String) (cidCheck : Cid → Bytes → Except CidVerificationError Unit) : VerifyEnv :=
  { PK := S.PublicKey, Sig := S.Sig, validate := validate, toPeerId := toPeerId, keyText := keyText, sigText := sigText,
    verifySig := S.verify, cidCheck := cidCheck }

end Aqua.Run
